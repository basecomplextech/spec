/-
MessageWriter.Copy / Merge (Writer/Api.lean `copyMsg`): copying a well-formed source message into a
message that is being written appends, in tag order, exactly the source fields whose tags the
destination does not have yet, with their value bytes unchanged — whatever the fields are (known to
the writing schema or not).
-/
import SpecVerif.Lemmas.WriterTree
import SpecVerif.Lemmas.Delim
import SpecVerif.Lemmas.MsgRT
namespace SpecVerif.Writer
open SpecVerif

/-- the value written under `t` in `fs` (first match; tags are distinct in a well-formed message) -/
def valOf (fs : List (Nat × Bytes)) (t : Nat) : Bytes :=
  match fs.find? (fun f => f.1 == t) with
  | some f => f.2
  | none => []

theorem valOf_split (l : List (Nat × Bytes)) (t : Nat) (v : Bytes) (r : List (Nat × Bytes))
    (hnd : ((l ++ (t, v) :: r).map (·.1)).Nodup) : valOf (l ++ (t, v) :: r) t = v := by
  have hl : ∀ f ∈ l, f.1 ≠ t := by
    intro f hf heq
    rw [List.map_append, List.nodup_append] at hnd
    exact hnd.2.2 f.1 (List.mem_map_of_mem hf) t (by simp) heq
  have h1 : l.find? (fun f => f.1 == t) = none := by
    rw [List.find?_eq_none]
    intro f hf
    simpa using hl f hf
  unfold valOf
  rw [List.find?_append, h1]
  simp

/-- the source message in table order: `(tag, value)` -/
def srcOf (fs : List (Nat × Bytes)) : List (Nat × Bytes) :=
  (sortedEntries (msgPairs fs)).map fun e => (e.1, valOf fs e.1)

theorem srcOf_perm (fs : List (Nat × Bytes)) (wf : MsgWF fs) : (srcOf fs).Perm fs := by
  have hval : ∀ g ∈ fs, (g.1, valOf fs g.1) = g := by
    intro g hg
    obtain ⟨l, r, rfl⟩ := List.append_of_mem hg
    rw [valOf_split l g.1 g.2 r wf.nodup]
  have h : (msgPairs fs).map (fun e => (e.1, valOf fs e.1)) = fs := by
    rw [show (fun e : Nat × Nat => (e.1, valOf fs e.1)) = (fun t => (t, valOf fs t)) ∘ (·.1) from rfl,
      ← List.map_map, msgPairs_tags, List.map_map]
    exact (List.map_congr_left hval).trans (List.map_id _)
  have hp := (sortedEntries_perm (msgPairs fs)).map fun e => (e.1, valOf fs e.1)
  rwa [h] at hp

theorem srcOf_tags_nodup (fs : List (Nat × Bytes)) (wf : MsgWF fs) : ((srcOf fs).map (·.1)).Nodup :=
  ((srcOf_perm fs wf).map _).nodup_iff.mpr wf.nodup

/-- what the reader sees of an opened message: entry `i` has tag `src[i].1` and value `src[i].2` -/
def SrcView (M : MsgV) (src : List (Nat × Bytes)) : Prop :=
  M.fields = src.length ∧
  ∀ i (hi : i < src.length), M.tagAt i = .ok (some (src[i]).1) ∧ M.fieldAt i = .ok (src[i]).2

theorem src_view (p : Bytes) (fs : List (Nat × Bytes)) (wf : MsgWF fs) (hd : ∀ f ∈ fs, Delim f.2) :
    ∃ M, openMessage (p ++ encMsg fs) = .ok M ∧ SrcView M (srcOf fs) := by
  refine ⟨msgV fs, by rw [openMessage, openMessageErr_enc p fs wf], ?_, fun i hi => ?_⟩
  · rw [msgV_fields]; simp [srcOf, sortedEntries_msgPairs_length]
  · have hi' : i < (sortedEntries (msgPairs fs)).length := by simpa [srcOf] using hi
    obtain ⟨l, v, r, hfs, hraw⟩ := msgV_fieldAtRaw fs wf i hi'
    have hv : Delim v := hd _ (hfs ▸ List.mem_append_right l List.mem_cons_self)
    have hval : valOf fs (sortedEntries (msgPairs fs))[i].1 = v := by
      generalize (sortedEntries (msgPairs fs))[i].1 = tag at hfs
      subst hfs
      exact valOf_split l tag v r wf.nodup
    simp only [srcOf, List.getElem_map]
    refine ⟨by rw [MsgV.tagAt, (msgV_entry fs wf i hi').1]; rfl, ?_⟩
    rw [MsgV.fieldAt, hraw, hval]
    exact openValue_field v hv

/-! ### the copy loop on a live writer -/

/-- does the message on top of the stack already have a field with tag `t`? -/
def hasTag (st : WState) (m : Entry) (t : Nat) : Bool :=
  (st.fields.drop m.tableStart).any fun f => f.1 == t

/-- the copy loop as a fold: a source field is appended unless its tag is present -/
def copyFold (m : Entry) : List (Nat × Bytes) → WState → WState
  | [], st => st
  | f :: rest, st => if hasTag st m f.1 then copyFold m rest st else copyFold m rest (addFld st f.2 f.1 m)

section
variable {w : W} (he : w.err = none) (st : WState) (stk : List Entry) (m : Entry) (hst : st.stack = stk ++ [m])
  (hm : m.type_ = .message) (hts : m.tableStart ≤ st.fields.length)
include he hst hm hts

theorem hasField_live (tag : Nat) : hasField (setSt w st) tag = .bool (hasTag st m tag) := by
  obtain ⟨buf, _, els, fls⟩ := st
  subst hst
  simp [hasField, he, peek_snoc, hm, Nat.not_lt.mpr hts, hasTag]

theorem fieldAny_live (idx tag : Nat) (v : Bytes) :
    fieldAny (setSt w st) idx tag v = (setSt w (addFld st v tag m), .ok) := by
  obtain ⟨w1, h1, h2⟩ := leaf_live he idx st stk m (some tag) hst ⟨hm, hts⟩ v
  simp only [fieldAny, setSt_err, he, h1]
  exact h2

theorem copyLoop_live (M : MsgV) (src : List (Nat × Bytes)) (hv : SrcView M src) (idx : Nat) :
    ∀ (k i : Nat), i + k = src.length →
      copyLoop M idx k i (setSt w st) = (setSt w (copyFold m (src.drop i) st), .ok) := by
  intro k
  induction k generalizing st with
  | zero =>
    intro i hik
    rw [List.drop_eq_nil_of_le (by omega)]
    rfl
  | succ k ih =>
    intro i hik
    have hi : i < src.length := by omega
    obtain ⟨htag, hfield⟩ := hv.2 i hi
    rw [copyLoop, htag, List.drop_eq_getElem_cons hi, copyFold]
    simp only [hasField_live he st stk m hst hm hts]
    cases hasTag st m (src[i]).1 with
    | true => exact ih st hst hts (i + 1) (by omega)
    | false =>
      simp only [hfield, fieldAny_live he st stk m hst hm hts, Bool.false_eq_true, ↓reduceIte]
      exact ih (addFld st (src[i]).2 (src[i]).1 m) hst (addFld_fields_len st m _ _ hts) (i + 1) (by omega)

end

theorem copyLoop_spec (M : MsgV) (src : List (Nat × Bytes)) (hv : SrcView M src) (idx : Nat) :
    ∀ (k i : Nat) (w : W) (st : WState) (base : List Entry) (m : Entry),
      w.err = none → w.st = some st → st.stack = base ++ [m] → m.type_ = .message →
      m.tableStart ≤ st.fields.length → i + k = src.length →
      copyLoop M idx k i w = (setSt w (copyFold m (src.drop i) st), .ok) := by
  intro k i w st base m he hs hst hm hts hik
  rw [← setSt_self w st hs]
  exact copyLoop_live he st base m hst hm hts M src hv idx k i hik

/-! ### what the fold appends -/

theorem hasTag_addFld (st : WState) (m : Entry) (v : Bytes) (t t' : Nat) (hts : m.tableStart ≤ st.fields.length) :
    hasTag (addFld st v t m) m t' = (t == t' || hasTag st m t') := by
  unfold hasTag addFld
  rw [List.drop_left' (List.length_take_of_le hts), (insertField_perm _ _).any_eq, List.any_cons]

theorem hasTag_addAll (m : Entry) (t : Nat) : ∀ (xs : List (Nat × Bytes)) (st : WState),
    m.tableStart ≤ st.fields.length →
    hasTag (addAll m xs st) m t = ((xs.map (·.1)).contains t || hasTag st m t) := by
  intro xs
  induction xs with
  | nil => intro st _; simp [addAll]
  | cons f xs ih =>
    intro st hts
    have : addAll m (f :: xs) st = addAll m xs (addFld st f.2 f.1 m) := rfl
    rw [this, ih _ (addFld_fields_len st m f.2 f.1 hts), hasTag_addFld st m f.2 f.1 t hts, Bool.beq_comm]
    simp only [List.map_cons, List.contains_cons, Bool.or_assoc]
    exact Bool.or_left_comm _ _ _

/-- with distinct source tags the fold appends exactly the source fields whose tag was absent at the
start -/
theorem copyFold_filter (m : Entry) : ∀ (src : List (Nat × Bytes)) (st : WState),
    (src.map (·.1)).Nodup → m.tableStart ≤ st.fields.length →
    copyFold m src st = addAll m (src.filter fun f => !hasTag st m f.1) st := by
  intro src
  induction src with
  | nil => intro st _ _; rfl
  | cons f rest ih =>
    intro st hnd hts
    simp only [List.map_cons, List.nodup_cons] at hnd
    unfold copyFold
    cases hb : hasTag st m f.1 with
    | true =>
      rw [ih st hnd.2 hts]
      simp [hb]
    | false =>
      rw [ih (addFld st f.2 f.1 m) hnd.2 (addFld_fields_len st m f.2 f.1 hts)]
      have hcongr : (rest.filter fun g => !hasTag (addFld st f.2 f.1 m) m g.1) =
          (rest.filter fun g => !hasTag st m g.1) := by
        apply List.filter_congr
        intro g hg
        rw [hasTag_addFld st m f.2 f.1 g.1 hts]
        have : f.1 ≠ g.1 := by
          intro heq; apply hnd.1; rw [heq]; exact List.mem_map_of_mem hg
        simp [this]
      rw [hcongr]
      simp [hb, addAll]

/-! ### the program: write some fields, copy the rest from a source message, build -/

/-- the source fields a destination with tags `wtags` takes over, in table (tag) order -/
def copiedOf (wtags : List Nat) (fs : List (Nat × Bytes)) : List (Nat × Bytes) :=
  (srcOf fs).filter fun f => !wtags.contains f.1

def copyProg (ws : Flds) (srcBytes : Bytes) : List Call :=
  Call.msg :: (compFlds 0 1 ws ++ [Call.copy 0 srcBytes, Call.build 0])

/-- the source fields a message in state `st` (top entry `m`) takes over -/
def copiedIn (st : WState) (m : Entry) (fs : List (Nat × Bytes)) : List (Nat × Bytes) :=
  (srcOf fs).filter fun f => !hasTag st m f.1

theorem copyMsg_enc {w : W} (he : w.err = none) (st : WState) (stk : List Entry) (m : Entry)
    (hst : st.stack = stk ++ [m]) (hm : m.type_ = .message) (hts : m.tableStart ≤ st.fields.length) (idx : Nat)
    (p : Bytes) (fs : List (Nat × Bytes)) (wf : MsgWF fs) (hd : ∀ f ∈ fs, Delim f.2) :
    copyMsg (setSt w st) idx (p ++ encMsg fs) = (setSt w (addAll m (copiedIn st m fs) st), .ok) := by
  obtain ⟨M, hopen, hview⟩ := src_view p fs wf hd
  rw [copyMsg, hopen]
  exact (copyLoop_live he st stk m hst hm hts M _ hview idx M.fields 0 (by rw [hview.1]; omega)).trans
    (by rw [List.drop_zero, copyFold_filter m _ st (srcOf_tags_nodup fs wf) hts]; rfl)

theorem step_copy_ok (s : Sess) (idx h : Nat) {src : Bytes} {w' : W}
    (hh : s.handles[h]? = some ⟨.M, false⟩) (hc : copyMsg s.w idx src = (w', .ok)) :
    step s idx (.copy h src) = ({ s with w := w' }, .ok) := by
  unfold step getHandle onHandle
  simp only [hh, ↓reduceIte, Bool.false_eq_true, hc]

/-- write the fields `ws` (any trees), then Copy/Merge from the well-formed message `fs`, then Build:
every call is answered `ok` and the result is the message holding the written fields followed by
exactly the source fields with other tags, values unchanged -/
theorem run_copyProg (ws : Flds) (p : Bytes) (fs : List (Nat × Bytes)) (wf : MsgWF fs)
    (hd : ∀ f ∈ fs, Delim f.2) (buf : Bytes) :
    BuiltLast (run (copyProg ws (p ++ encMsg fs)) buf)
      (encMsg (ws.encs ++ copiedOf (ws.encs.map (·.1)) fs)) := by
  have he : (fresh buf).err = none := rfl
  obtain ⟨hrun, hok⟩ := run_rootFlds ws buf
  have hcopy := copyMsg_enc he (addAll ⟨buf.length, 0, .message⟩ ws.encs ⟨buf, [⟨buf.length, 0, .message⟩], [], []⟩)
    [] ⟨buf.length, 0, .message⟩ (addAll_stack _ ws.encs _) rfl (Nat.zero_le _)
    (0 + (Call.msg :: compFlds 0 1 ws).length) p fs wf hd
  -- the message has exactly the written tags
  have hfilter : copiedIn (addAll ⟨buf.length, 0, .message⟩ ws.encs ⟨buf, [⟨buf.length, 0, .message⟩], [], []⟩)
      ⟨buf.length, 0, .message⟩ fs = copiedOf (ws.encs.map (·.1)) fs :=
    List.filter_congr fun f _ => by rw [hasTag_addAll _ _ _ _ (Nat.zero_le _)]; simp [hasTag]
  rw [hfilter, addAll_append] at hcopy
  have h := builtLast_of_build (Sess.init buf) 0 0
    ((Call.msg :: compFlds 0 1 ws) ++ [Call.copy 0 (p ++ encMsg fs)]) ⟨.M, false⟩
    (encMsg (ws.encs ++ copiedOf (ws.encs.map (·.1)) fs))
  rw [runFrom_append, runFrom_single, hrun, step_copy_ok _ _ 0 rfl hcopy] at h
  have hprog : copyProg ws (p ++ encMsg fs) =
      (Call.msg :: compFlds 0 1 ws) ++ [Call.copy 0 (p ++ encMsg fs)] ++ [Call.build 0] := by
    simp [copyProg]
  rw [run, hprog]
  exact h (AllOk_append hok (AllOk_cons AllOk_nil)) rfl rfl
    (end_root he _ (endTop_msg ⟨buf, [], [], []⟩ [] .nil _))

/-! ### membership in the copied part -/

theorem copiedOf_mem (wtags : List Nat) (fs : List (Nat × Bytes)) (wf : MsgWF fs) (f : Nat × Bytes) :
    f ∈ copiedOf wtags fs ↔ f ∈ fs ∧ f.1 ∉ wtags := by
  unfold copiedOf
  simp only [List.mem_filter, (srcOf_perm fs wf).mem_iff, Bool.not_eq_eq_eq_not, Bool.not_true,
    List.contains_eq_mem, decide_eq_false_iff_not]

theorem copy_result_wf (ws : List (Nat × Bytes)) (fs : List (Nat × Bytes)) (wfw : MsgWF ws) (wf : MsgWF fs)
    (hsz : (((ws ++ copiedOf (ws.map (·.1)) fs).map (·.2)).flatten).length +
      6 * (ws ++ copiedOf (ws.map (·.1)) fs).length < 2 ^ 32) :
    MsgWF (ws ++ copiedOf (ws.map (·.1)) fs) := by
  refine ⟨?_, ?_, hsz⟩
  · rw [List.map_append, List.nodup_append]
    refine ⟨wfw.nodup, ?_, ?_⟩
    · have : ((copiedOf (ws.map (·.1)) fs).map (·.1)).Sublist ((srcOf fs).map (·.1)) :=
        (List.filter_sublist).map _
      exact (srcOf_tags_nodup fs wf).sublist this
    · intro a ha c hc heq
      obtain ⟨g, hg, hgc⟩ := List.mem_map.mp hc
      apply ((copiedOf_mem _ fs wf g).mp hg).2
      rw [hgc, ← heq]; exact ha
  · intro f hf
    rcases List.mem_append.mp hf with hf | hf
    · exact wfw.tags f hf
    · exact wf.tags f ((copiedOf_mem _ fs wf f).mp hf).1

/-! ### Copy at any depth = writing the absent source fields raw -/

/-- the calls `Field(tag).Any(value)` for a list of `(tag, value)` -/
def rawFields (h : Nat) (xs : List (Nat × Bytes)) : List Call := xs.map fun f => Call.f h f.1 f.2

theorem run_rawFields (h : Nat) (stk : List Entry) (m : Entry) (hm : m.type_ = .message) :
    ∀ (xs : List (Nat × Bytes)) (s : Sess) (idx : Nat) (st : WState),
      s.w.err = none → s.w.st = some st → st.stack = stk ++ [m] → m.tableStart ≤ st.fields.length →
      s.handles[h]? = some ⟨.M, false⟩ →
      (runFrom s idx (rawFields h xs)).1 = After s (addAll m xs st) [] ∧
        AllOk (runFrom s idx (rawFields h xs)).2 := by
  intro xs
  induction xs with
  | nil => intro s idx st he hs _ _ _; exact ⟨(After_self s st hs).symm, AllOk_nil⟩
  | cons f rest ih =>
    intro s idx st he hs hst hts hh
    obtain ⟨h1, h2⟩ := ih (After s (addFld st f.2 f.1 m) []) (idx + 1) _ he rfl hst (addFld_fields_len st m _ _ hts)
      (by simpa using hh)
    have hstep := step_leaf (tag := some f.1) he hs hst ⟨hm, hts⟩ hh idx f.2
    rw [rawFields, List.map_cons, runFrom_cons, show step s idx (Call.f h f.1 f.2) = _ from hstep]
    exact ⟨h1.trans (After_After ..), AllOk_cons h2⟩

/-- C16 `copy_any_depth`: Copy/Merge at any depth = `Field(tag).Any(value)` for the absent source fields -/
theorem copy_eq_rawFields (s : Sess) (idx idx' h : Nat) (st : WState) (base : List Entry) (m : Entry)
    (p : Bytes) (fs : List (Nat × Bytes)) (wf : MsgWF fs) (hd : ∀ f ∈ fs, Delim f.2)
    (he : s.w.err = none) (hs : s.w.st = some st) (hst : st.stack = base ++ [m]) (hm : m.type_ = .message)
    (hts : m.tableStart ≤ st.fields.length) (hh : s.handles[h]? = some ⟨.M, false⟩) :
    step s idx (.copy h (p ++ encMsg fs)) = ((runFrom s idx' (rawFields h (copiedIn st m fs))).1, .ok) ∧
      AllOk (runFrom s idx' (rawFields h (copiedIn st m fs))).2 := by
  have hcopy := copyMsg_enc he st base m hst hm hts idx p fs wf hd
  rw [setSt_self s.w st hs] at hcopy
  obtain ⟨h1, h2⟩ := run_rawFields h base m hm (copiedIn st m fs) s idx' st he hs hst hts hh
  exact ⟨by rw [step_copy_ok s idx h hh hcopy, h1, After_nil], h2⟩

end SpecVerif.Writer
