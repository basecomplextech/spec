/-
`Delim b`: behind every prefix the probe `decodeTypeSize` reports exactly `b.length`.  `OpenValue` then cuts exactly
`b` off the end of a buffer, which is what `Message.Field` / `FieldAt` do with the raw bytes of a field.
-/
import SpecVerif.Lemmas.Access
namespace SpecVerif

def Delim (b : Bytes) : Prop := b ≠ [] ∧ ∀ q, ∃ t, decodeTypeSize (q ++ b) = .ok (t, b.length)

theorem openValue_of_delim (b : Bytes) (h : Delim b) (q : Bytes) : openValue (q ++ b) = .ok b := by
  obtain ⟨t, ht⟩ := h.2 q
  rw [openValue, ht]
  simp only
  rw [if_neg (by simp), suffix_append]

/-- what `Field`/`FieldAt` make of the raw bytes ending in a delimited value -/
theorem openValue_field (v : Bytes) (h : Delim v) {a : Bytes} :
    (if (a ++ v).length = 0 then pure [] else openValue (a ++ v)) = .ok v := by
  rw [if_neg (by have := List.length_pos_iff.mpr h.1; simp only [List.length_append]; omega)]
  exact openValue_of_delim v h a

/-- a value of `k` bytes and the type byte `t`, when the probe answers `1 + k` on every buffer that ends so -/
theorem probe_fixed (q body : Bytes) (t : UInt8) (k : Nat) (hb : body.length = k)
    (hcase : ∀ v : Bytes, v.length = q.length + k →
      decodeTypeSize (v ++ [t]) = .ok (t, 1 + k)) :
    decodeTypeSize (q ++ (body ++ [t])) = .ok (t, (body ++ [t]).length) := by
  rw [← List.append_assoc, hcase (q ++ body) (by simp [hb])]
  simp [hb]; omega

end SpecVerif
