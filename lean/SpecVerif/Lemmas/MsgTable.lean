/-
The message table as the encoder writes it: `sortedEntries` is a permutation of what was written, sorted when the
tags are distinct; on the serialized table every accessor of format.MessageTable returns the entry asked for.
-/
import SpecVerif.Lemmas.Search
namespace SpecVerif
open Pinned

/-! ### insertion keeps the table a sorted permutation -/

theorem insertField_perm (f : Nat × Nat) (l : List (Nat × Nat)) : (insertField f l).Perm (f :: l) := by
  induction l with
  | nil => simp [insertField]
  | cons g gs ih =>
    unfold insertField
    split
    · exact List.Perm.refl _
    · exact (List.Perm.cons g ih).trans (List.Perm.swap f g gs)

theorem insertField_append_perm (f : Nat × Nat) (acc fs : List (Nat × Nat)) :
    (insertField f acc ++ fs).Perm (acc ++ f :: fs) :=
  ((insertField_perm f acc).append_right fs).trans List.perm_middle.symm

theorem sortedEntries_foldl_perm (fs acc : List (Nat × Nat)) :
    (fs.foldl (fun acc f => insertField f acc) acc).Perm (acc ++ fs) := by
  induction fs generalizing acc with
  | nil => simp
  | cons f fs ih => exact (ih (insertField f acc)).trans (insertField_append_perm f acc fs)

theorem sortedEntries_perm (fs : List (Nat × Nat)) : (sortedEntries fs).Perm fs := by
  simpa [sortedEntries] using sortedEntries_foldl_perm fs []

theorem insertField_sorted (f : Nat × Nat) (l : List (Nat × Nat)) (hs : TagsSorted l)
    (hn : ∀ g ∈ l, g.1 ≠ f.1) : TagsSorted (insertField f l) := by
  induction l with
  | nil => simp [insertField, TagsSorted]
  | cons g gs ih =>
    unfold insertField
    have hs' := List.pairwise_cons.mp hs
    split
    · have hlt : f.1 < g.1 := by have := hn g (by simp); omega
      apply List.pairwise_cons.mpr
      refine ⟨?_, hs⟩
      intro b hb
      rcases List.mem_cons.mp hb with h | h
      · subst h; exact hlt
      · have := hs'.1 b h; omega
    · apply List.pairwise_cons.mpr
      refine ⟨?_, ih hs'.2 (fun x hx => hn x (by simp [hx]))⟩
      intro b hb
      have hb' := (insertField_perm f gs).mem_iff.mp hb
      rcases List.mem_cons.mp hb' with h | h
      · subst h; omega
      · exact hs'.1 b h

theorem sortedEntries_foldl_sorted (fs acc : List (Nat × Nat)) (hs : TagsSorted acc)
    (hd : ((acc ++ fs).map (·.1)).Nodup) :
    TagsSorted (fs.foldl (fun acc f => insertField f acc) acc) := by
  induction fs generalizing acc with
  | nil => exact hs
  | cons f fs ih =>
    apply ih
    · apply insertField_sorted f acc hs
      intro g hg heq
      rw [List.map_append] at hd
      exact (List.nodup_append.mp hd).2.2 g.1 (List.mem_map_of_mem hg) f.1 (by simp) heq
    · exact ((insertField_append_perm f acc fs).map _).nodup_iff.mpr hd

theorem sortedEntries_sorted (fs : List (Nat × Nat)) (hd : (fs.map (·.1)).Nodup) :
    TagsSorted (sortedEntries fs) :=
  sortedEntries_foldl_sorted fs [] List.Pairwise.nil (by simpa using hd)

/-! ### the serialized view -/

def encEntry (tw ow : Nat) (f : Nat × Nat) : Bytes := toBE tw f.1 ++ toBE ow f.2

theorem encEntry_length (tw ow : Nat) (f : Nat × Nat) : (encEntry tw ow f).length = tw + ow := by
  simp [encEntry]

theorem tableView_entries (tw ow : Nat) (l : List (Nat × Nat))
    (hb : ∀ f ∈ l, f.1 < 256 ^ tw ∧ f.2 < 256 ^ ow) :
    TableView (l.flatMap (encEntry tw ow)) (tw + ow) tw l := by
  have hw := encEntry_length tw ow
  refine ⟨fun i hi => ?_, fun i hi => ?_⟩ <;> have hf := hb _ (List.getElem_mem hi)
  · rw [← Nat.add_zero (i * (tw + ow)), readBE_flatMap_entry _ hw l i hi 0 tw (by omega), encEntry,
      readBE_left (by simp), readBE_toBE _ _ hf.1]
  · rw [readBE_flatMap_entry _ hw l i hi tw _ (by omega), encEntry, Nat.add_sub_cancel_left]
    have := readBE_shift (toBE tw l[i].1) (toBE ow l[i].2) 0 ow
    rw [toBE_length, Nat.add_zero] at this
    rw [this, readBE_toBE _ _ hf.2]

theorem encMsgTable_eq (big : Bool) (l : List (Nat × Nat)) :
    encMsgTable big l = l.flatMap (encEntry (if big then 2 else 1) (if big then 4 else 2)) := by
  unfold encMsgTable encEntry
  cases big <;> simp

theorem encMsgTable_length (big : Bool) (l : List (Nat × Nat)) :
    (encMsgTable big l).length = l.length * (if big then msgFieldBig else msgFieldSmall) := by
  rw [encMsgTable_eq, length_flatMap_width (encEntry_length _ _)]
  cases big <;> rfl

theorem small_msg_bound (l : List (Nat × Nat)) (h : isBigMessage l = false) :
    ∀ f ∈ l, f.1 < 256 ^ 1 ∧ f.2 < 256 ^ 2 := by
  intro f hf
  have := List.any_eq_false.mp h f hf
  simp only [Bool.or_eq_true, decide_eq_true_eq, not_or, Nat.not_lt] at this
  omega

/-! ### the accessors of format.MessageTable on a table that holds the entries `l` -/

section
variable (T : Table) (l : List (Nat × Nat)) (hT : T.table = encMsgTable T.big l)
  (hb : ∀ f ∈ l, f.1 < 256 ^ (if T.big then 2 else 1) ∧ f.2 < 256 ^ (if T.big then 4 else 2))
include hT

theorem Table.msgLen_enc : T.msgLen = l.length := by
  rw [Table.msgLen, hT, encMsgTable_length]
  exact Nat.mul_div_cancel _ (entrySize_pos T)

include hb

theorem Table.view_enc : TableView T.table T.entrySize T.tagSize l := by
  obtain ⟨tb, d, big⟩ := T
  simp only at hT hb
  subst hT
  rw [encMsgTable_eq]
  cases big <;> exact tableView_entries _ _ l hb

theorem Table.msgFieldEntry_enc (i : Nat) (hi : i < l.length) : T.msgFieldEntry i = .ok (some l[i]) := by
  have V := T.view_enc l hT hb
  simp only [Table.msgFieldEntry, T.msgLen_enc l hT, Nat.not_le.mpr hi, ↓reduceIte, V.tagAt i hi, V.offAt i hi]

theorem Table.msgOffsetByIndex_enc (i : Nat) (hi : i < l.length) : T.msgOffsetByIndex i = .ok (some l[i].2) := by
  rw [Table.msgOffsetByIndex, if_neg (by rw [T.msgLen_enc l hT]; omega), (T.view_enc l hT hb).offAt i hi]

/-- `Offset(tag)` finds the entry with that tag, if there is one -/
theorem Table.msgOffset_enc (hs : TagsSorted l) (tag : Nat) :
    (∃ f ∈ l, f.1 = tag ∧ T.msgOffset tag = .ok (some f.2)) ∨
    ((∀ f ∈ l, f.1 ≠ tag) ∧ T.msgOffset tag = .ok none) := by
  have hn : T.table.length / T.entrySize = l.length := T.msgLen_enc l hT
  unfold Table.msgOffset
  by_cases c : T.table.length < T.entrySize
  · have : l = [] := List.eq_nil_of_length_eq_zero (by rw [← hn]; exact Nat.div_eq_of_lt c)
    subst this
    exact .inr ⟨by simp, if_pos c⟩
  · rw [if_neg c, hn]
    exact bsearch_spec T.table T.entrySize T.tagSize tag l (T.view_enc l hT hb) hs (l.length + 1) 0
      ((l.length : Int) - 1) (by omega) (by omega) (by omega) (by omega)
      (fun i _ hlt => by omega) (fun i hi hgt => by omega)
end

end SpecVerif
