/-
The writer API program that writes a value tree (`compRoot`: the calls a user of the public API makes,
with the handle numbering of the line protocol) and the proof that running it through the session
model `run` of Writer/Api.lean — the function the differential stream compares with the Go writer
call by call — answers `ok` to every call and returns exactly `Node.enc` of the tree from the final
`Build`. Same mutual induction as Lemmas/WriterRefine.lean, one level up (handles, call indices).
-/
import SpecVerif.Lemmas.WriterRefine
namespace SpecVerif.Writer
open SpecVerif

mutual
/-- the handles a tree creates, in creation order, as they are left behind: list handles stay
usable, message handles are dead after their `End` -/
def Node.handles : Node → List Handle
  | .leaf _ => []
  | .list es => ⟨.L, false⟩ :: es.handles
  | .msg fs => ⟨.M, true⟩ :: fs.handles
def Nodes.handles : Nodes → List Handle
  | .nil => []
  | .cons n ns => n.handles ++ ns.handles
def Flds.handles : Flds → List Handle
  | .nil => []
  | .cons _ n fs => n.handles ++ fs.handles
end

mutual
/-- the calls writing `n` as a child of handle `h` (`k` = number of handles created so far) -/
def compChild (h : Nat) (tag : Option Nat) (k : Nat) : Node → List Call
  | .leaf b => [match tag with | none => Call.e h b | some t => Call.f h t b]
  | .list es =>
    (match tag with | none => Call.elist h | some t => Call.flist h t) :: (compElems k (k + 1) es ++ [Call.end_ k])
  | .msg fs =>
    (match tag with | none => Call.emsg h | some t => Call.fmsg h t) :: (compFlds k (k + 1) fs ++ [Call.end_ k])
def compElems (h k : Nat) : Nodes → List Call
  | .nil => []
  | .cons n ns => compChild h none k n ++ compElems h (k + n.handles.length) ns
def compFlds (h k : Nat) : Flds → List Call
  | .nil => []
  | .cons t n fs => compChild h (some t) k n ++ compFlds h (k + n.handles.length) fs
end

def compRoot : Node → List Call
  | .leaf b => [.v b, .vbuild]
  | .list es => Call.list :: (compElems 0 1 es ++ [Call.build 0])
  | .msg fs => Call.msg :: (compFlds 0 1 fs ++ [Call.build 0])

/-! ### running a program piece by piece; where a handle sits -/

theorem runFrom_append (s : Sess) (idx : Nat) (a b : List Call) :
    runFrom s idx (a ++ b) =
      ((runFrom (runFrom s idx a).1 (idx + a.length) b).1,
       (runFrom s idx a).2 ++ (runFrom (runFrom s idx a).1 (idx + a.length) b).2) := by
  induction a generalizing s idx with
  | nil => simp [runFrom]
  | cons c cs ih =>
    simp only [List.cons_append, runFrom, List.length_cons]
    rw [ih]
    have : idx + 1 + cs.length = idx + (cs.length + 1) := by omega
    rw [this]

theorem runFrom_single (s : Sess) (idx : Nat) (c : Call) :
    runFrom s idx [c] = ((step s idx c).1, [(step s idx c).2]) := by
  simp [runFrom]

theorem runFrom_cons (s : Sess) (idx : Nat) (c : Call) (cs : List Call) :
    runFrom s idx (c :: cs) =
      ((runFrom (step s idx c).1 (idx + 1) cs).1, (step s idx c).2 :: (runFrom (step s idx c).1 (idx + 1) cs).2) := by
  simp [runFrom]

theorem handle_prefix {hs extra : List Handle} {h : Nat} {hd : Handle} (hh : hs[h]? = some hd) :
    (hs ++ extra)[h]? = some hd := by
  have := (List.getElem?_eq_some_iff.mp hh).1
  rw [List.getElem?_append_left this]; exact hh

theorem handle_new (hs : List Handle) (x : Handle) (extra : List Handle) :
    (hs ++ x :: extra)[hs.length]? = some x := by
  simp

theorem set_new (hs : List Handle) (x y : Handle) (extra : List Handle) :
    (hs ++ x :: extra).set hs.length y = hs ++ y :: extra := by
  simp

/-! ### the calls of a child, by slot -/

def slotKind : Option Nat → HKind
  | none => .L
  | some _ => .M

def leafCall (h : Nat) (b : Bytes) : Option Nat → Call
  | none => .e h b
  | some t => .f h t b

def listCall (h : Nat) : Option Nat → Call
  | none => .elist h
  | some t => .flist h t

def msgCall (h : Nat) : Option Nat → Call
  | none => .emsg h
  | some t => .fmsg h t

theorem compChild_leaf (h : Nat) (tag : Option Nat) (k : Nat) (b : Bytes) :
    compChild h tag k (.leaf b) = [leafCall h b tag] := by
  cases tag <;> rfl

theorem compChild_list (h : Nat) (tag : Option Nat) (k : Nat) (es : Nodes) :
    compChild h tag k (.list es) = listCall h tag :: (compElems k (k + 1) es ++ [.end_ k]) := by
  cases tag <;> rfl

theorem compChild_msg (h : Nat) (tag : Option Nat) (k : Nat) (fs : Flds) :
    compChild h tag k (.msg fs) = msgCall h tag :: (compFlds k (k + 1) fs ++ [.end_ k]) := by
  cases tag <;> rfl

/-! ### single calls on a live session -/

/-- the session after a sub-program: writer state `st'`, new handles appended, nothing built -/
def After (s : Sess) (st' : WState) (hs : List Handle) : Sess :=
  { s with w := setSt s.w st', handles := s.handles ++ hs }

@[simp] theorem After_w (s : Sess) (st' : WState) (hs : List Handle) : (After s st' hs).w = setSt s.w st' := rfl
@[simp] theorem After_handles (s : Sess) (st' : WState) (hs : List Handle) :
    (After s st' hs).handles = s.handles ++ hs := rfl
@[simp] theorem After_built (s : Sess) (st' : WState) (hs : List Handle) : (After s st' hs).built = s.built := rfl
theorem After_After (s : Sess) (a b : WState) (h1 h2 : List Handle) :
    After (After s a h1) b h2 = After s b (h1 ++ h2) := by
  simp [After]

theorem After_nil (s : Sess) (st : WState) : After s st [] = { s with w := setSt s.w st } := by
  simp [After]

theorem After_self (s : Sess) (st : WState) (hs : s.w.st = some st) : After s st [] = s := by
  simp [After, setSt_self s.w st hs]

section
variable {s : Sess} {st : WState} {stk : List Entry} {p : Entry} {tag : Option Nat} {h : Nat}
  (he : s.w.err = none) (hs : s.w.st = some st) (hst : st.stack = stk ++ [p]) (hp : Slot st.fields p tag)
  (hh : s.handles[h]? = some ⟨slotKind tag, false⟩) (idx : Nat)
include he hs hst hp hh

theorem step_leaf (b : Bytes) :
    step s idx (leafCall h b tag) = (After s (addChild st b tag p) [], .ok) := by
  obtain ⟨w1, h1, h2⟩ := leaf_live he idx st stk p tag hst hp b
  rw [setSt_self s.w st hs] at h1
  cases tag with
  | none =>
    simp only [leafCall, step, getHandle, hh, slotKind, ↓reduceIte, onHandle, Bool.false_eq_true, h1]
    rw [show element _ idx = _ from h2, After_nil]
  | some t =>
    simp only [leafCall, step, getHandle, hh, slotKind, ↓reduceIte, onHandle, Bool.false_eq_true, h1]
    rw [show field _ idx t = _ from h2, After_nil]

theorem step_list :
    step s idx (listCall h tag) =
      (After s { st with stack := st.stack ++ [marker st.buf.length tag] ++
        [⟨st.buf.length, st.elements.length, .list⟩] } [⟨.L, false⟩], .ok) := by
  have hb := beginSlot_live he idx st stk p tag hst hp
  rw [setSt_self s.w st hs] at hb
  have hstep : step s idx (listCall h tag) = (addHandle s (beginList (beginSlot s.w idx tag)) .L false, .ok) := by
    cases tag <;> simp [listCall, step, getHandle, hh, slotKind, beginSlot]
  rw [hstep, hb, beginList_live he]
  rfl

theorem step_msg :
    step s idx (msgCall h tag) =
      (After s { st with stack := st.stack ++ [marker st.buf.length tag] ++
        [⟨st.buf.length, st.fields.length, .message⟩] } [⟨.M, false⟩], .ok) := by
  have hb := beginSlot_live he idx st stk p tag hst hp
  rw [setSt_self s.w st hs] at hb
  have hstep : step s idx (msgCall h tag) = (addHandle s (beginMessage (beginSlot s.w idx tag)) .M false, .ok) := by
    cases tag <;> simp [msgCall, step, getHandle, hh, slotKind, beginSlot]
  rw [hstep, hb, beginMessage_live he]
  rfl

end

theorem step_end_ok {s : Sess} {idx : Nat} (k : Nat) (hd : Handle) {w' : W} {b : Bytes}
    (hh : s.handles[k]? = some hd) (hdead : hd.dead = false) (hend : end_ s.w idx = (w', .built b)) :
    step s idx (.end_ k) =
      ((if hd.kind = .M then killHandle { s with w := w' } k else { s with w := w' }), .ok) := by
  unfold step onHandle
  simp only [hh, hdead, Bool.false_eq_true, ↓reduceIte, hend]

theorem step_build_ok (s : Sess) (idx k : Nat) (hd : Handle) (w' : W) (b : Bytes)
    (hh : s.handles[k]? = some hd) (hdead : hd.dead = false) (hend : end_ s.w idx = (w', .built b)) :
    (step s idx (.build k)).2 = .built b ∧ (step s idx (.build k)).1.built = some b := by
  unfold step onHandle
  simp only [hh, hdead, Bool.false_eq_true, ↓reduceIte, hend]
  constructor
  · trivial
  · split <;> simp [recordBuilt, killHandle]

theorem step_vbuild_ok (s : Sess) (idx : Nat) (w' : W) (b : Bytes) (hend : end_ s.w idx = (w', .built b)) :
    (step s idx .vbuild).2 = .built b ∧ (step s idx .vbuild).1.built = some b := by
  simp [step, hend, recordBuilt]

/-! ### the program of a tree, by mutual induction over the tree -/

def AllOk (os : List Out) : Prop := ∀ o ∈ os, o = .ok

theorem AllOk_nil : AllOk [] := nofun
theorem AllOk_cons {os : List Out} (h : AllOk os) : AllOk (.ok :: os) := List.forall_mem_cons.mpr ⟨rfl, h⟩
theorem AllOk_append {a b : List Out} (ha : AllOk a) (hb : AllOk b) : AllOk (a ++ b) :=
  List.forall_mem_append.mpr ⟨ha, hb⟩

mutual
theorem runChild (tag : Option Nat) : (n : Node) → (s : Sess) → (idx h k : Nat) → (st : WState) →
    (stk : List Entry) → (p : Entry) → s.w.err = none → s.w.st = some st → st.stack = stk ++ [p] →
    Slot st.fields p tag → s.handles[h]? = some ⟨slotKind tag, false⟩ → s.handles.length = k →
    (runFrom s idx (compChild h tag k n)).1 = After s (addChild st n.enc tag p) n.handles ∧
      AllOk (runFrom s idx (compChild h tag k n)).2
  | .leaf b, s, idx, h, k, st, stk, p, he, hs, hst, hp, hh, hk => by
    rw [compChild_leaf, runFrom_single, step_leaf he hs hst hp hh idx b]
    exact ⟨rfl, AllOk_cons AllOk_nil⟩
  | .list es, s, idx, h, k, st, stk, p, he, hs, hst, hp, hh, hk => by
    obtain ⟨hrun, hok⟩ := runElems es (After s _ [⟨.L, false⟩]) (idx + 1) k (k + 1)
      { st with stack := st.stack ++ [marker st.buf.length tag] ++ [⟨st.buf.length, st.elements.length, .list⟩] }
      (st.stack ++ [marker st.buf.length tag]) ⟨st.buf.length, st.elements.length, .list⟩
      he rfl rfl rfl (hk ▸ handle_new _ _ []) (by simp [hk])
    rw [compChild_list, runFrom_cons, step_list he hs hst hp hh idx, runFrom_append, runFrom_single, hrun,
      After_After, step_end_ok k ⟨.L, false⟩ (hk ▸ handle_new _ _ _) rfl
        (end_child he _ st stk p tag hst hp (endTop_list _ _ .marker es.encs))]
    exact ⟨rfl, AllOk_cons (AllOk_append hok (AllOk_cons AllOk_nil))⟩
  | .msg fs, s, idx, h, k, st, stk, p, he, hs, hst, hp, hh, hk => by
    obtain ⟨hrun, hok⟩ := runFlds fs (After s _ [⟨.M, false⟩]) (idx + 1) k (k + 1)
      { st with stack := st.stack ++ [marker st.buf.length tag] ++ [⟨st.buf.length, st.fields.length, .message⟩] }
      (st.stack ++ [marker st.buf.length tag]) ⟨st.buf.length, st.fields.length, .message⟩
      he rfl rfl rfl (Nat.le_refl _) (hk ▸ handle_new _ _ []) (by simp [hk])
    rw [compChild_msg, runFrom_cons, step_msg he hs hst hp hh idx, runFrom_append, runFrom_single, hrun,
      After_After, step_end_ok k ⟨.M, false⟩ (hk ▸ handle_new _ _ _) rfl
        (end_child he _ st stk p tag hst hp (endTop_msg _ _ .marker fs.encs))]
    refine ⟨?_, AllOk_cons (AllOk_append hok (AllOk_cons AllOk_nil))⟩
    simp only [↓reduceIte, killHandle, After, Node.handles, List.singleton_append, ← hk, set_new]
    rfl

theorem runElems : (ns : Nodes) → (s : Sess) → (idx h k : Nat) → (st : WState) → (stk : List Entry) →
    (l : Entry) → s.w.err = none → s.w.st = some st → st.stack = stk ++ [l] → l.type_ = .list →
    s.handles[h]? = some ⟨.L, false⟩ → s.handles.length = k →
    (runFrom s idx (compElems h k ns)).1 = After s (addElems l ns.encs st) ns.handles ∧
      AllOk (runFrom s idx (compElems h k ns)).2
  | .nil, s, idx, h, k, st, stk, l, he, hs, hst, hl, hh, hk =>
    ⟨(After_self s st hs).symm, AllOk_nil⟩
  | .cons n ns, s, idx, h, k, st, stk, l, he, hs, hst, hl, hh, hk => by
    obtain ⟨hrun1, hok1⟩ := runChild none n s idx h k st stk l he hs hst hl hh hk
    obtain ⟨hrun2, hok2⟩ := runElems ns (After s (addChild st n.enc none l) n.handles)
      (idx + (compChild h none k n).length) h (k + n.handles.length) _ stk l he rfl hst hl
      (handle_prefix hh) (by simp [hk])
    rw [compElems, runFrom_append, hrun1, hrun2, After_After]
    exact ⟨rfl, AllOk_append hok1 hok2⟩

theorem runFlds : (fs : Flds) → (s : Sess) → (idx h k : Nat) → (st : WState) → (stk : List Entry) →
    (m : Entry) → s.w.err = none → s.w.st = some st → st.stack = stk ++ [m] → m.type_ = .message →
    m.tableStart ≤ st.fields.length → s.handles[h]? = some ⟨.M, false⟩ → s.handles.length = k →
    (runFrom s idx (compFlds h k fs)).1 = After s (addAll m fs.encs st) fs.handles ∧
      AllOk (runFrom s idx (compFlds h k fs)).2
  | .nil, s, idx, h, k, st, stk, m, he, hs, hst, hm, hts, hh, hk =>
    ⟨(After_self s st hs).symm, AllOk_nil⟩
  | .cons t n fs, s, idx, h, k, st, stk, m, he, hs, hst, hm, hts, hh, hk => by
    obtain ⟨hrun1, hok1⟩ := runChild (some t) n s idx h k st stk m he hs hst ⟨hm, hts⟩ hh hk
    obtain ⟨hrun2, hok2⟩ := runFlds fs (After s (addChild st n.enc (some t) m) n.handles)
      (idx + (compChild h (some t) k n).length) h (k + n.handles.length) _ stk m he rfl hst hm
      (addFld_fields_len st m _ t hts) (handle_prefix hh) (by simp [hk])
    rw [compFlds, runFrom_append, hrun1, hrun2, After_After]
    exact ⟨rfl, AllOk_append hok1 hok2⟩
end

theorem runChild_elem : (n : Node) → (s : Sess) → (idx h k : Nat) → (st : WState) → (base : List Entry) →
    (l : Entry) → s.w.err = none → s.w.st = some st → st.stack = base ++ [l] → l.type_ = .list →
    s.handles[h]? = some ⟨.L, false⟩ → s.handles.length = k →
    ∃ st', (runFrom s idx (compChild h none k n)).1 = After s st' n.handles ∧
      st'.buf = st.buf ++ n.enc ∧ st'.stack = st.stack ∧
      st'.elements = st.elements ++ [(st.buf ++ n.enc).length - l.start] ∧ st'.fields = st.fields ∧
      AllOk (runFrom s idx (compChild h none k n)).2 := by
  intro n s idx h k st base l he hs hst hl hh hk
  obtain ⟨hrun, hok⟩ := runChild none n s idx h k st base l he hs hst hl hh hk
  exact ⟨_, hrun, rfl, rfl, rfl, rfl, hok⟩

theorem runChild_fld : (n : Node) → (s : Sess) → (idx h k tag : Nat) → (st : WState) → (base : List Entry) →
    (m : Entry) → s.w.err = none → s.w.st = some st → st.stack = base ++ [m] → m.type_ = .message →
    m.tableStart ≤ st.fields.length →
    s.handles[h]? = some ⟨.M, false⟩ → s.handles.length = k →
    ∃ st', (runFrom s idx (compChild h (some tag) k n)).1 = After s st' n.handles ∧
      st'.buf = st.buf ++ n.enc ∧ st'.stack = st.stack ∧ st'.elements = st.elements ∧
      st'.fields = st.fields.take m.tableStart ++
        insertField (tag, (st.buf ++ n.enc).length - m.start) (st.fields.drop m.tableStart) ∧
      AllOk (runFrom s idx (compChild h (some tag) k n)).2 := by
  intro n s idx h k tag st base m he hs hst hm hts hh hk
  obtain ⟨hrun, hok⟩ := runChild (some tag) n s idx h k st base m he hs hst ⟨hm, hts⟩ hh hk
  exact ⟨_, hrun, rfl, rfl, rfl, rfl, hok⟩

/-- what a program answered: `ok` to every call, then the bytes from the final `Build` -/
def BuiltLast (r : Sess × List Out) (b : Bytes) : Prop :=
  r.1.built = some b ∧ ∃ oks, r.2 = oks ++ [.built b] ∧ AllOk oks

theorem builtLast_of_build (s : Sess) (idx k : Nat) (cs : List Call) (hd : Handle) (b : Bytes)
    (hok : AllOk (runFrom s idx cs).2) (hh : (runFrom s idx cs).1.handles[k]? = some hd) (hdead : hd.dead = false)
    (hend : (end_ (runFrom s idx cs).1.w (idx + cs.length)).2 = .built b) :
    BuiltLast (runFrom s idx (cs ++ [.build k])) b := by
  obtain ⟨ha, hb⟩ := step_build_ok _ _ k hd _ b hh hdead (Prod.ext rfl hend)
  rw [runFrom_append, runFrom_single]
  exact ⟨hb, _, by rw [ha], hok⟩

theorem run_rootFlds (fs : Flds) (buf : Bytes) :
    (runFrom (Sess.init buf) 0 (Call.msg :: compFlds 0 1 fs)).1 =
        After (Sess.init buf)
          (addAll ⟨buf.length, 0, .message⟩ fs.encs ⟨buf, [⟨buf.length, 0, .message⟩], [], []⟩)
          (⟨.M, false⟩ :: fs.handles) ∧
      AllOk (runFrom (Sess.init buf) 0 (Call.msg :: compFlds 0 1 fs)).2 := by
  have h1 : step (Sess.init buf) 0 .msg =
      (After (Sess.init buf) ⟨buf, [⟨buf.length, 0, .message⟩], [], []⟩ [⟨.M, false⟩], .ok) := rfl
  obtain ⟨hrun, hok⟩ := runFlds fs
    (After (Sess.init buf) ⟨buf, [⟨buf.length, 0, .message⟩], [], []⟩ [⟨.M, false⟩])
    1 0 1 _ [] _ rfl rfl rfl rfl (Nat.le_refl _) rfl rfl
  rw [runFrom_cons, h1, hrun, After_After]
  exact ⟨rfl, AllOk_cons hok⟩

/-- the writer API, driven by the program of any value tree into a writer with any initial buffer
content, answers `ok` to every call and returns exactly the layout bytes of the tree -/
theorem run_compRoot (n : Node) (buf : Bytes) : BuiltLast (run (compRoot n) buf) n.enc := by
  have he : (fresh buf).err = none := rfl
  cases n with
  | leaf b =>
    have h1 : step (Sess.init buf) 0 (.v b) =
        (After (Sess.init buf) ⟨buf ++ b, [⟨buf.length, (buf ++ b).length, .data⟩], [], []⟩ [], .ok) := rfl
    obtain ⟨ha, hb⟩ := step_vbuild_ok (After (Sess.init buf) _ []) 1 _ b
      (Prod.ext rfl (end_value_root he 1 ⟨buf, [], [], []⟩ b))
    rw [run, compRoot, runFrom_cons, h1, runFrom_single]
    exact ⟨hb, [.ok], by rw [ha]; rfl, AllOk_cons AllOk_nil⟩
  | list es =>
    have h1 : step (Sess.init buf) 0 .list =
        (After (Sess.init buf) ⟨buf, [⟨buf.length, 0, .list⟩], [], []⟩ [⟨.L, false⟩], .ok) := rfl
    obtain ⟨hrun, hok⟩ := runElems es (After (Sess.init buf) ⟨buf, [⟨buf.length, 0, .list⟩], [], []⟩ [⟨.L, false⟩])
      1 0 1 _ [] _ he rfl rfl rfl rfl rfl
    have h := builtLast_of_build (Sess.init buf) 0 0 (Call.list :: compElems 0 1 es) ⟨.L, false⟩ (encList es.encs)
    rw [runFrom_cons, h1, hrun] at h
    exact h (AllOk_cons hok) rfl rfl (end_root he _ (endTop_list ⟨buf, [], [], []⟩ [] .nil es.encs))
  | msg fs =>
    obtain ⟨hrun, hok⟩ := run_rootFlds fs buf
    have h := builtLast_of_build (Sess.init buf) 0 0 (Call.msg :: compFlds 0 1 fs) ⟨.M, false⟩ (encMsg fs.encs)
    rw [hrun] at h
    exact h hok rfl rfl (end_root he _ (endTop_msg ⟨buf, [], [], []⟩ [] .nil fs.encs))

end SpecVerif.Writer
