/-
The writer state machine never panics: an invariant of the writer state (every stack entry points
into the buffer and the side tables, entries are ordered) is preserved by every operation, and under
the invariant no operation reaches one of the explicit `panic` outcomes of Writer/Model.lean (nil
state, slice bounds, table index).
-/
import SpecVerif.Lemmas.WriterStep
import SpecVerif.Lemmas.MsgTable
namespace SpecVerif.Writer
open SpecVerif

def EntryOK (s : WState) (e : Entry) : Prop :=
  e.start ≤ s.buf.length ∧
  (e.type_ = .data → e.start ≤ e.tableStart ∧ e.tableStart ≤ s.buf.length) ∧
  (e.type_ = .list → e.tableStart ≤ s.elements.length) ∧
  (e.type_ = .message → e.tableStart ≤ s.fields.length)

/-- a lower entry never points beyond a higher one -/
def Below (a b : Entry) : Prop :=
  a.start ≤ b.start ∧
  (a.type_ = .list → b.type_ = .list → a.tableStart ≤ b.tableStart) ∧
  (a.type_ = .message → b.type_ = .message → a.tableStart ≤ b.tableStart)

def SInv (s : WState) : Prop := (∀ e ∈ s.stack, EntryOK s e) ∧ s.stack.Pairwise Below

def WInv (w : W) : Prop := w.err = none → ∃ s, w.st = some s ∧ SInv s

theorem WInv_of_err (w : W) (e : WErr) (h : w.err = some e) : WInv w := by
  intro h0; rw [h] at h0; cases h0

theorem WInv_fresh (buf : Bytes) (r : Bool) : WInv (fresh buf r) := by
  intro _; exact ⟨_, rfl, by simp [SInv]⟩

theorem WInv_closedW : WInv closedW := WInv_of_err _ .closed rfl

theorem WInv_fail (w : W) {e : WErr} : WInv (fail w e).1 := by
  unfold fail
  cases h : w.err with
  | some e0 => exact WInv_of_err _ e0 h
  | none => exact WInv_of_err _ e rfl

theorem WInv_close (w : W) (h : WInv w) : WInv (close w).1 := by
  unfold close
  cases he : w.err with
  | some e0 => exact h
  | none => simp only; split <;> exact WInv_of_err _ .closed rfl

/-! ### the invariant under push, pop and growth -/

theorem SInv_mono (s s' : WState) (hs : SInv s) (hst : s'.stack = s.stack)
    (hb : s.buf.length ≤ s'.buf.length) (he : s.elements.length ≤ s'.elements.length)
    (hf : s.fields.length ≤ s'.fields.length) : SInv s' := by
  refine ⟨fun e h => ?_, hst ▸ hs.2⟩
  obtain ⟨h1, h2, h3, h4⟩ := hs.1 e (hst ▸ h)
  exact ⟨by omega, fun t => ⟨(h2 t).1, by have := (h2 t).2; omega⟩, fun t => by have := h3 t; omega,
    fun t => by have := h4 t; omega⟩

theorem SInv_addElement (s : WState) (hs : SInv s) (x : Nat) : SInv { s with elements := s.elements ++ [x] } :=
  SInv_mono s _ hs rfl (Nat.le_refl _) (by simp) (Nat.le_refl _)

theorem SInv_snoc (s : WState) (e : Entry) :
    SInv (push s e) ↔ SInv s ∧ EntryOK s e ∧ ∀ a ∈ s.stack, Below a e := by
  simp only [SInv, push, List.pairwise_append, List.mem_append, List.mem_singleton, List.pairwise_cons,
    List.not_mem_nil, false_imp_iff, implies_true, List.Pairwise.nil, and_true, true_and, forall_eq]
  constructor
  · rintro ⟨h1, h2, h3⟩
    exact ⟨⟨fun a ha => h1 a (.inl ha), h2⟩, h1 e (.inr rfl), h3⟩
  · rintro ⟨⟨h1, h2⟩, h3, h4⟩
    exact ⟨fun a ha => ha.elim (h1 a) (· ▸ h3), h2, h4⟩

theorem pop_some {s : WState} {e : Entry} {s1 : WState} (h : pop s = some (e, s1)) : s = push s1 e := by
  unfold pop at h
  split at h
  · cases h
  · rename_i x hl
    obtain ⟨stk, hstk⟩ := List.getLast?_eq_some_iff.mp hl
    cases h
    cases s
    simp_all [push]

/-! ### outcomes, and the common heads of the operations -/

def Good (r : W × Out) : Prop := WInv r.1 ∧ r.2 ≠ .panic

theorem Good_failOut (w : W) (idx : Nat) : Good (failOut w idx) := ⟨WInv_fail w, by simp [failOut]⟩

theorem Good_err (w : W) (e : WErr) (h : w.err = some e) : Good (w, .err e) :=
  ⟨WInv_of_err w e h, by simp⟩

theorem Good_st {s : WState} {o : Out} {e : Option WErr} {r : Bool} (hs : SInv s) (ho : o ≠ .panic) :
    Good (⟨some s, e, r⟩, o) :=
  ⟨fun _ => ⟨s, rfl, hs⟩, ho⟩

/-- the head every operation with an answer begins with -/
theorem Good_live (w : W) (hw : WInv w) {k : WState → W × Out} (hk : ∀ s, SInv s → Good (k s)) :
    Good (match w.err with
      | some e => (w, .err e)
      | none =>
        match w.st with
        | none => (w, .panic)
        | some s => k s) := by
  cases he : w.err with
  | some e => exact Good_err w e he
  | none =>
    obtain ⟨s, hst, hs⟩ := hw he
    simp only [hst]
    exact hk s hs

/-- the head of the `begin` operations -/
theorem WInv_live (w : W) (hw : WInv w) {k : WState → W} (hk : ∀ s, SInv s → WInv (k s)) :
    WInv (match w.err, w.st with
      | none, some s => k s
      | _, _ => w) := by
  cases he : w.err with
  | some e => exact hw
  | none =>
    obtain ⟨s, hst, hs⟩ := hw he
    simp only [hst]
    exact hk s hs

/-! ### the operations -/

theorem SInv_push_data (s : WState) (start stop : Nat) (hs : SInv s) (h1 : start ≤ stop)
    (h2 : stop ≤ s.buf.length) (h3 : ∀ a ∈ s.stack, a.start ≤ start) : SInv (push s ⟨start, stop, .data⟩) :=
  (SInv_snoc s _).mpr ⟨hs, ⟨Nat.le_trans h1 h2, fun _ => ⟨h1, h2⟩, nofun, nofun⟩,
    fun a ha => ⟨h3 a ha, fun _ => nofun, fun _ => nofun⟩⟩

theorem pushData_good (w : W) (s : WState) (idx start stop : Nat) (hs : SInv s)
    (h1 : start ≤ stop) (h2 : stop ≤ s.buf.length) (h3 : ∀ a ∈ s.stack, a.start ≤ start) :
    Good (pushData w s idx start stop) := by
  have hpush := SInv_push_data s start stop hs h1 h2 h3
  unfold pushData
  split
  · split
    · exact Good_failOut w idx
    · exact Good_st hpush (by simp)
  · exact Good_st hpush (by simp)

theorem writeValue_good (w : W) (idx : Nat) (enc : Bytes) (hw : WInv w) : Good (writeValue w idx enc) :=
  Good_live w hw fun s hs =>
    pushData_good w _ idx _ _ (SInv_mono s _ hs rfl (by simp) (Nat.le_refl _) (Nat.le_refl _))
      (by simp) (by simp) (fun a ha => (hs.1 a ha).1)

theorem popData_spec (s : WState) (stop : Nat) (s1 : WState) (hs : SInv s) (h : popData s = some (stop, s1)) :
    ∃ a, s = push s1 ⟨a, stop, .data⟩ ∧ SInv s1 ∧ a ≤ stop ∧ stop ≤ s1.buf.length ∧
      ∀ b ∈ s1.stack, b.start ≤ a := by
  unfold popData at h
  split at h
  · rename_i e s' hp
    split at h
    · rename_i hd
      cases h
      obtain ⟨a, t, ty⟩ := e
      cases hd
      obtain rfl := pop_some hp
      obtain ⟨hs1, hok, hbelow⟩ := (SInv_snoc s1 _).mp hs
      exact ⟨a, rfl, hs1, (hok.2.1 rfl).1, (hok.2.1 rfl).2, fun b hb => (hbelow b hb).1⟩
    · cases h
  · cases h

theorem element_good (w : W) (idx : Nat) (hw : WInv w) : Good (element w idx) := by
  refine Good_live w hw fun s hs => ?_
  cases hp : popData s with
  | none => exact Good_failOut w idx
  | some p =>
    obtain ⟨a, -, hs1, -⟩ := popData_spec s p.1 p.2 hs hp
    simp only
    split
    · split
      · exact Good_st (o := .ok) (SInv_addElement p.2 hs1 _) (by simp)
      · exact Good_failOut w idx
    · exact Good_failOut w idx

theorem insertAt_good (s : WState) (m : Entry) (f : Nat × Nat) (hs : SInv s) (hk : peek s = some m)
    (hm : m.type_ = .message) : ∃ fs, insertAt s.fields m.tableStart f = some fs ∧ SInv { s with fields := fs } := by
  have h := (hs.1 m (List.mem_of_getLast? hk)).2.2.2 hm
  refine ⟨_, insertAt_le f h, SInv_mono s _ hs rfl (Nat.le_refl _) (Nat.le_refl _) ?_⟩
  have hp := (insertField_perm f (s.fields.drop m.tableStart)).length_eq
  simp only [List.length_append, List.length_take, List.length_cons, List.length_drop] at hp ⊢
  omega

theorem field_good (w : W) (idx tag : Nat) (hw : WInv w) : Good (field w idx tag) := by
  refine Good_live w hw fun s hs => ?_
  cases hp : popData s with
  | none => exact Good_failOut w idx
  | some p =>
    obtain ⟨a, -, hs1, -⟩ := popData_spec s p.1 p.2 hs hp
    simp only
    split
    · rename_i m hk
      split
      · rename_i hm
        obtain ⟨fs, hfs, hs2⟩ := insertAt_good p.2 m (tag, p.1 - m.start) hs1 hk hm
        rw [hfs]
        exact Good_st hs2 (by simp)
      · exact Good_failOut w idx
    · exact Good_failOut w idx

theorem SInv_push_here (s : WState) (hs : SInv s) {e : Entry} (h1 : e.start = s.buf.length)
    (h2 : e.type_ ≠ .data) (h3 : e.type_ = .list → e.tableStart = s.elements.length)
    (h4 : e.type_ = .message → e.tableStart = s.fields.length) : SInv (push s e) := by
  refine (SInv_snoc s e).mpr ⟨hs, ⟨by omega, fun t => absurd t h2, fun t => Nat.le_of_eq (h3 t),
    fun t => Nat.le_of_eq (h4 t)⟩, fun a ha => ?_⟩
  have ok := hs.1 a ha
  exact ⟨by have := ok.1; omega, fun ta tb => h3 tb ▸ ok.2.2.1 ta,
    fun ta tb => h4 tb ▸ ok.2.2.2 ta⟩

theorem beginList_inv (w : W) (hw : WInv w) : WInv (beginList w) :=
  WInv_live w hw fun s hs _ => ⟨_, rfl, SInv_push_here s hs rfl (by simp) (fun _ => rfl) nofun⟩

theorem beginMessage_inv (w : W) (hw : WInv w) : WInv (beginMessage w) :=
  WInv_live w hw fun s hs _ => ⟨_, rfl, SInv_push_here s hs rfl (by simp) nofun (fun _ => rfl)⟩

theorem beginElement_inv (w : W) (idx : Nat) (hw : WInv w) : WInv (beginElement w idx) := by
  refine WInv_live w hw fun s hs => ?_
  split
  · split
    · exact fun _ => ⟨_, rfl, SInv_push_here s hs rfl (by simp) nofun nofun⟩
    · exact WInv_fail w
  · exact WInv_fail w

theorem beginField_inv (w : W) (idx tag : Nat) (hw : WInv w) : WInv (beginField w idx tag) := by
  refine WInv_live w hw fun s hs => ?_
  split
  · split
    · exact fun _ => ⟨_, rfl, SInv_push_here s hs rfl (by simp) nofun nofun⟩
    · exact WInv_fail w
  · exact WInv_fail w

theorem listLen_good (w : W) (hw : WInv w) : listLen w ≠ .panic := by
  unfold listLen
  cases he : w.err with
  | some e => simp
  | none =>
    obtain ⟨s, hst, hs⟩ := hw he
    simp only [hst]
    split
    · rename_i l hk
      split
      · rename_i hl
        simp [Nat.not_lt.mpr ((hs.1 l (List.mem_of_getLast? hk)).2.2.1 hl)]
      · simp
    · simp

theorem hasField_good (w : W) (tag : Nat) (hw : WInv w) : hasField w tag ≠ .panic := by
  unfold hasField
  cases he : w.err with
  | some e => simp
  | none =>
    obtain ⟨s, hst, hs⟩ := hw he
    simp only [hst]
    split
    · rename_i m hk
      split
      · rename_i hm
        simp [Nat.not_lt.mpr ((hs.1 m (List.mem_of_getLast? hk)).2.2.2 hm)]
      · simp
    · simp

/-! ### `end` -/

def EndTop.OK : EndTop → Prop
  | .done s _ => SInv s
  | .failed => True
  | .panicked => False

/-- the common tail of ending a list or a message: `s2` is `s1` with the trailer appended and the container's
table cut off; a data entry for the whole container is pushed -/
theorem endContainer (s1 s2 : WState) (e : Entry) (hs1 : SInv s1) (hbelow : ∀ a ∈ s1.stack, Below a e)
    (hstart : e.start ≤ s1.buf.length) (hs2stack : s2.stack = s1.stack) (hbuf : s1.buf.length ≤ s2.buf.length)
    (hel : ∀ a ∈ s1.stack, a.type_ = .list → a.tableStart ≤ s2.elements.length)
    (hfl : ∀ a ∈ s1.stack, a.type_ = .message → a.tableStart ≤ s2.fields.length) :
    SInv (push s2 ⟨e.start, s2.buf.length, .data⟩) ∧
      slice? s2.buf e.start s2.buf.length = some ((s2.buf.take s2.buf.length).drop e.start) := by
  have hs2 : SInv s2 := by
    refine ⟨fun a ha => ?_, hs2stack ▸ hs1.2⟩
    rw [hs2stack] at ha
    obtain ⟨o1, o2, -, -⟩ := hs1.1 a ha
    exact ⟨by omega, fun t => ⟨(o2 t).1, by have := (o2 t).2; omega⟩, hel a ha, hfl a ha⟩
  exact ⟨SInv_push_data s2 _ _ hs2 (by omega) (Nat.le_refl _) (fun a ha => (hbelow a (hs2stack ▸ ha)).1),
    slice?_some _ _ _ (by omega) (Nat.le_refl _)⟩

theorem endTop_good (s : WState) (hs : SInv s) : (endTop s).OK := by
  unfold endTop
  cases hp : pop s with
  | none => trivial
  | some p =>
    obtain ⟨e, s1⟩ := p
    obtain rfl := pop_some hp
    obtain ⟨hs1, hok, hbelow⟩ := (SInv_snoc s1 e).mp hs
    simp only
    cases ht : e.type_ with
    | data =>
      simp only
      split
      · trivial
      · rw [slice?_some _ _ _ hok.1 (Nat.le_refl _)]; exact hs1
    | list =>
      have hcond : ¬ (e.tableStart > s1.elements.length ∨ e.start > s1.buf.length) := by
        have := hok.2.2.1 ht; have := hok.1; omega
      simp only [hcond, ↓reduceIte]
      obtain ⟨hpush, hx⟩ := endContainer s1
        { s1 with buf := s1.buf ++ listTrailer (s1.buf.length - e.start) (s1.elements.drop e.tableStart),
                  elements := s1.elements.take e.tableStart } e hs1 hbelow hok.1 rfl (by simp)
        (fun a ha t => by have := (hbelow a ha).2.1 t ht; have := hok.2.2.1 ht; simp only [List.length_take]; omega)
        (fun a ha t => (hs1.1 a ha).2.2.2 t)
      simp only [hx]
      split
      · split
        · trivial
        · exact hpush
      · exact hpush
    | message =>
      have hcond : ¬ (e.tableStart > s1.fields.length ∨ e.start > s1.buf.length) := by
        have := hok.2.2.2 ht; have := hok.1; omega
      simp only [hcond, ↓reduceIte]
      obtain ⟨hpush, hx⟩ := endContainer s1
        { s1 with buf := s1.buf ++ msgTrailer (s1.buf.length - e.start) (s1.fields.drop e.tableStart),
                  fields := s1.fields.take e.tableStart } e hs1 hbelow hok.1 rfl (by simp)
        (fun a ha t => (hs1.1 a ha).2.2.1 t)
        (fun a ha t => by have := (hbelow a ha).2.2 t ht; have := hok.2.2.2 ht; simp only [List.length_take]; omega)
      simp only [hx]
      split
      · split
        · trivial
        · exact hpush
      · exact hpush
    | element => trivial
    | field => trivial

theorem endParent_good (w : W) (s : WState) (idx : Nat) (result : Bytes) (hs : SInv s) :
    Good (endParent w s idx result) := by
  -- under an element or a field marker: the data entry and the marker are popped, the bytes sliced
  have hpp : ∀ stop s1 el s2, popData s = some (stop, s1) → pop s1 = some (el, s2) →
      SInv s2 ∧ ∃ x, slice? s2.buf el.start stop = some x := by
    intro stop s1 el s2 h1 h2
    obtain ⟨a, -, hs1, ha, hstop, hb⟩ := popData_spec s stop s1 hs h1
    obtain rfl := pop_some h2
    exact ⟨((SInv_snoc s2 el).mp hs1).1, _,
      slice?_some _ _ _ (Nat.le_trans (hb el (by simp [push])) ha) hstop⟩
  unfold endParent
  split
  · exact ⟨WInv_close _ (fun _ => ⟨s, rfl, hs⟩), by simp⟩
  · rename_i par _
    cases hpt : par.type_ with
    | element =>
      cases hp : popData s with
      | none => exact Good_failOut w idx
      | some p =>
        simp only
        cases hpop : pop p.2 with
        | none => exact Good_failOut w idx
        | some q =>
          obtain ⟨hs2, x, hx⟩ := hpp p.1 p.2 q.1 q.2 hp hpop
          simp only
          split
          · exact Good_failOut w idx
          · split
            · split
              · rw [hx]; exact Good_st (SInv_addElement q.2 hs2 _) (by simp)
              · exact Good_failOut w idx
            · exact Good_failOut w idx
    | field =>
      cases hp : popData s with
      | none => exact Good_failOut w idx
      | some p =>
        simp only
        cases hpop : pop p.2 with
        | none => exact Good_failOut w idx
        | some q =>
          obtain ⟨hs2, x, hx⟩ := hpp p.1 p.2 q.1 q.2 hp hpop
          simp only
          split
          · exact Good_failOut w idx
          · split
            · rename_i m hk
              split
              · rename_i hm
                obtain ⟨fs, hfs, hs3⟩ := insertAt_good q.2 m (q.1.tableStart, p.1 - m.start) hs2 hk hm
                rw [hfs]
                simp only [hx]
                exact Good_st hs3 (by simp)
              · exact Good_failOut w idx
            · exact Good_failOut w idx
    | data | list | message => exact Good_st hs (by simp)

theorem end_good (w : W) (idx : Nat) (hw : WInv w) : Good (end_ w idx) := by
  refine Good_live w hw fun s hs => ?_
  have ht := endTop_good s hs
  cases hd : endTop s with
  | failed => exact Good_failOut w idx
  | panicked => rw [hd] at ht; exact ht.elim
  | done s1 b => rw [hd] at ht; exact endParent_good w s1 idx b ht

/-! ### operations made of others; `Free`, `Reset` -/

/-- `Good r` is an arrow, not a named hypothesis: the `match` on `r` would be generalised over it and no longer
be the term the model's definitions contain -/
theorem Good.andThen {k : W → W × Out} (hk : ∀ w, WInv w → Good (k w)) : ∀ {r : W × Out}, Good r →
    Good (let (w1, o) := r
          match o with
          | .ok => k w1
          | o => (w1, o)) := by
  rintro ⟨w1, o⟩ hr
  cases o with
  | ok => exact hk w1 hr.1
  | panic => exact absurd rfl hr.2
  | _ => exact hr

theorem fieldAny_good (w : W) (idx tag : Nat) (data : Bytes) (hw : WInv w) : Good (fieldAny w idx tag data) := by
  unfold fieldAny
  cases he : w.err with
  | some e => exact Good_err w e he
  | none => exact (writeValue_good w idx data hw).andThen fun w1 => field_good w1 idx tag

theorem writeFail_good (w : W) (idx : Nat) (hw : WInv w) : Good (writeFail w idx) :=
  Good_live w hw fun _ _ => Good_failOut w idx

theorem free_good (w : W) : Good (free w) := by
  have herr : (close w).1.err ≠ none := by
    unfold close
    cases he : w.err with
    | some e0 => simp [he]
    | none => simp only; split <;> simp
  unfold free
  cases he : (close w).1.err with
  | none => exact absurd he herr
  | some e => simp only; split <;> exact ⟨WInv_of_err _ e he, by simp⟩

theorem reset_good (w : W) : Good (reset w) :=
  ⟨WInv_fresh _ _, by simp [reset]⟩

/-! ### the public API: every call of every program -/

def Call.noCopy : Call → Bool
  | .copy _ _ => false
  | _ => true

theorem onHandle_good (s : Sess) (dead : Bool) (op : W → W × Out) (hs : WInv s.w)
    (hop : ∀ w, WInv w → Good (op w)) : WInv (onHandle s dead op).1.w ∧ (onHandle s dead op).2 ≠ .panic := by
  cases dead
  · exact hop s.w hs
  · exact ⟨hs, (hop closedW WInv_closedW).2⟩

theorem Call.op_good (idx : Nat) (c : Call) (hc : c.noCopy = true) (w : W) (hw : WInv w) : Good (c.op idx w) := by
  cases c with
  | msg => exact ⟨beginMessage_inv _ hw, nofun⟩
  | list => exact ⟨beginList_inv _ hw, nofun⟩
  | v enc => exact writeValue_good w idx enc hw
  | f h tag enc => exact (writeValue_good w idx enc hw).andThen fun w1 => field_good w1 idx tag
  | e h enc => exact (writeValue_good w idx enc hw).andThen fun w1 => element_good w1 idx
  | fmsg h tag => exact ⟨beginMessage_inv _ (beginField_inv _ _ _ hw), nofun⟩
  | flist h tag => exact ⟨beginList_inv _ (beginField_inv _ _ _ hw), nofun⟩
  | emsg h => exact ⟨beginMessage_inv _ (beginElement_inv _ _ hw), nofun⟩
  | elist h => exact ⟨beginList_inv _ (beginElement_inv _ _ hw), nofun⟩
  | has h tag => exact ⟨hw, hasField_good w tag hw⟩
  | len h => exact ⟨hw, listLen_good w hw⟩
  | copy h src => cases hc
  | vbuild | end_ h | build h => exact end_good w idx hw
  | fwfail h | ewfail h => exact writeFail_good w idx hw
  | err => exact ⟨hw, by simp only [Call.op]; split <;> simp⟩
  | reset => exact reset_good w
  | free => exact free_good w
  | bad => exact ⟨hw, nofun⟩

theorem Call.out_not_panic (c : Call) (o : Out) (h : o ≠ .panic) : c.out o ≠ .panic := by
  unfold Call.out; split <;> simp_all

theorem step_good (s : Sess) (idx : Nat) (c : Call) (hs : WInv s.w) (hc : c.noCopy = true) :
    WInv (step s idx c).1.w ∧ (step s idx c).2 ≠ .panic :=
  step_inv (Q := (· ≠ .panic)) s idx c hs (Call.op_good idx c hc) (Call.op_good idx c hc _ WInv_closedW).2
    (by simp) (Call.out_not_panic c)

end SpecVerif.Writer
