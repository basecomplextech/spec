/-
What the encoders append, read back through the decoder bodies of Lemmas/Decoders.lean: one lemma per layout,
behind any prefix, with codes, widths and range tests as variables.
-/
import SpecVerif.Wire.Encode
import SpecVerif.Lemmas.Decoders
namespace SpecVerif
open Pinned

/-! ### varint -/

/-- `fits`: the range the caller asked for, which the decoder's overflow test denies -/
theorem varintBody_fits {α : Type} {rd : Bytes → α × Int} {ovf : α → Prop} [DecidablePred ovf] (p : Bytes)
    {body : Bytes} {v : α} {fits : Prop} [Decidable fits]
    (h : rd (p ++ body) = (v, (body.length : Int))) (hpos : 0 < body.length) (hf : ovf v ↔ ¬ fits) :
    varintBody rd ovf 1 (p ++ body) = if fits then .ok (v, 1 + body.length) else .err .overflow 0 := by
  simp only [varintBody, h, Int.toNat_natCast]
  rw [if_neg (by omega)]
  by_cases hc : fits
  · rw [if_pos hc, if_neg fun ho => hf.mp ho hc]
  · rw [if_neg hc, if_pos (hf.mpr hc)]

section
variable {α : Type} [OfNat α 0] {c16 c32 c64 : UInt8} {rd32 rd64 : Bytes → α × Int}
  {ovf32 ovf64 : α → Prop} [DecidablePred ovf32] [DecidablePred ovf64] (p : Bytes) {body : Bytes} {v : α}
  {fits : Prop} [Decidable fits]

theorem decodeVarint_of32 {t : UInt8} (ht : t = c16 ∨ t = c32)
    (h : rd32 (p ++ body) = (v, (body.length : Int))) (hpos : 0 < body.length) (hf : ovf32 v ↔ ¬ fits) :
    decodeVarint c16 c32 c64 rd32 rd64 ovf32 ovf64 (p ++ (body ++ [t])) =
      if fits then .ok (v, (body ++ [t]).length) else .err .overflow 0 := by
  rw [← List.append_assoc, decodeVarint_snoc, if_pos ht, varintBody_fits p h hpos hf, List.length_append,
    Nat.add_comm]; rfl

theorem decodeVarint_of64 (hc : ¬ (c64 = c16 ∨ c64 = c32))
    (h : rd64 (p ++ body) = (v, (body.length : Int))) (hpos : 0 < body.length) (hf : ovf64 v ↔ ¬ fits) :
    decodeVarint c16 c32 c64 rd32 rd64 ovf32 ovf64 (p ++ (body ++ [c64])) =
      if fits then .ok (v, (body ++ [c64]).length) else .err .overflow 0 := by
  rw [← List.append_assoc, decodeVarint_snoc, if_neg hc, if_pos rfl, varintBody_fits p h hpos hf,
    List.length_append, Nat.add_comm]; rfl
end

/-! ### fixed width (byte, bin, float) -/

theorem fixedBody_enc {α : Type} (k errN : Nat) (accept : Bytes → Option α) (p v : Bytes) (h : v.length = k) :
    fixedBody k errN accept (p ++ v) =
      match accept v with
      | none => .err .overflow 0
      | some a => .ok (a, k + 1) := by
  rw [fixedBody, if_neg (by simp [h]), lastN_append' p v k h]
  cases accept v <;> rfl

theorem decodeBin_enc (k : Nat) {code : UInt8} (p v : Bytes) (h : v.length = k) :
    decodeBin k code (p ++ (v ++ [code])) = .ok (v, (v ++ [code]).length) := by
  rw [← List.append_assoc, decodeBin_snoc, if_neg (by simp), fixedBody_enc k 1 some p v h, List.length_append, h]
  rfl

/-! ### size varint behind the data (bytes, string, the two table sizes) -/

theorem decodeSize_put (p : Bytes) (v : Nat) (h : v < 2 ^ 32) :
    decodeSize (p ++ putRevU32 v) = (v, ((putRevU32 v).length : Int)) := by
  have := putRevU32_pos v
  simp only [decodeSize, revU32_put p v h]
  rw [if_neg (by omega)]

theorem window_put (p v z s : Bytes) :
    lastN v.length (dropLastN (s.length + z.length) (p ++ v ++ z ++ s)) = v := by
  rw [List.append_assoc (p ++ v), dropLastN_append' _ _ _ (by simp [Nat.add_comm]), lastN_append]

/-- `z`: nothing, or the NUL of a string -/
theorem sizedBody_enc {α : Type} (e : Nat) (errN : Bytes → Nat) (val : Bytes → α) (p v z : Bytes)
    (hz : z.length = e) (h : v.length < 2 ^ 32) :
    sizedBody e errN val (p ++ v ++ z ++ putRevU32 v.length) =
      .ok (val (p ++ v ++ z ++ putRevU32 v.length), (v ++ z ++ putRevU32 v.length).length + 1) := by
  subst hz
  simp only [sizedBody, decodeSize_put (p ++ v ++ z) v.length h, Int.toNat_natCast]
  rw [if_neg (by omega), if_neg (by simp; omega)]
  simp only [List.length_append]
  congr 2; omega

theorem sizedData_enc (e : Nat) (p v z : Bytes) (hz : z.length = e) (h : v.length < 2 ^ 32) :
    sizedData e (p ++ v ++ z ++ putRevU32 v.length) = v := by
  subst hz
  simp only [sizedData, decodeSize_put (p ++ v ++ z) v.length h, Int.toNat_natCast]
  exact window_put p v z _

end SpecVerif
