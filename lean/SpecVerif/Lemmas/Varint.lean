/-
The reverse varints of Wire/Varint.lean.  A reader looks at the last byte `f` of `x ++ [f]`: a marker
(0xfd, 0xfe, 0xff) announces `vwidth f` big-endian bytes before it, any other byte is the value itself.
The writers produce exactly these shapes, so what they append is read back behind every prefix.
-/
import SpecVerif.Wire.Varint
namespace SpecVerif

/-! ### the readers on a buffer with a known last byte -/

/-- payload width announced by the marker byte -/
def vwidth (f : UInt8) : Nat := if f = 0xfd then 2 else if f = 0xfe then 4 else if f = 0xff then 8 else 0

/-- the value of a reverse varint with marker `f` standing behind `x` -/
def vval (f : UInt8) (x : Bytes) : Nat := if vwidth f = 0 then f.toNat else be (lastN (vwidth f) x)

theorem revU64_snoc (x : Bytes) (f : UInt8) :
    revU64 (x ++ [f]) = if x.length < vwidth f then (0, 0) else (vval f x, ((vwidth f + 1 : Nat) : Int)) := by
  simp only [revU64, vval, vwidth, List.getLast?_append, List.getLast?_singleton, Option.some_or]
  by_cases h1 : f = 0xfd
  · simp only [h1, ↓reduceIte]; exact lastN_take_snoc_ite x _ 2 _ fun y => (be y, 3)
  by_cases h2 : f = 0xfe
  · simp only [h2, ↓reduceIte]; exact lastN_take_snoc_ite x _ 4 _ fun y => (be y, 5)
  by_cases h3 : f = 0xff
  · simp only [h3, ↓reduceIte]; exact lastN_take_snoc_ite x _ 8 _ fun y => (be y, 9)
  simp [h1, h2, h3]

/-- the 32-bit reader is the 64-bit one, except that it rejects the 8-byte marker -/
theorem revU32_snoc (x : Bytes) (f : UInt8) :
    revU32 (x ++ [f]) = if f = 0xff then (0, -1) else revU64 (x ++ [f]) := by
  simp only [revU32, revU64, List.getLast?_append, List.getLast?_singleton, Option.some_or]
  by_cases h : f = 0xff <;> simp [h]

theorem revSize_snoc (x : Bytes) (f : UInt8) :
    revSize (x ++ [f]) = if x.length < vwidth f then 0 else vwidth f + 1 := by
  simp only [revSize, vwidth, List.getLast?_append, List.getLast?_singleton, Option.some_or]
  by_cases h1 : f = 0xfd
  · simp only [h1, ↓reduceIte]; exact lastN_take_snoc_ite x _ 2 0 fun _ => 3
  by_cases h2 : f = 0xfe
  · simp only [h2, ↓reduceIte]; exact lastN_take_snoc_ite x _ 4 0 fun _ => 5
  by_cases h3 : f = 0xff
  · simp only [h3, ↓reduceIte]; exact lastN_take_snoc_ite x _ 8 0 fun _ => 9
  simp [h1, h2, h3]

/-! ### the writers -/

theorem putRevU32_length (v : Nat) :
    (putRevU32 v).length = if v ≤ 0xfc then 1 else if v ≤ 0xffff then 3 else 5 := by
  unfold putRevU32; repeat' split
  all_goals simp

theorem putRevU64_length (v : Nat) :
    (putRevU64 v).length =
      if v ≤ 0xfc then 1 else if v ≤ 0xffff then 3 else if v ≤ 0xffffffff then 5 else 9 := by
  unfold putRevU64; repeat' split
  all_goals simp

theorem putRevU32_pos (v : Nat) : 0 < (putRevU32 v).length := by
  rw [putRevU32_length]; repeat' split
  all_goals omega

theorem putRevU64_pos (v : Nat) : 0 < (putRevU64 v).length := by
  rw [putRevU64_length]; repeat' split
  all_goals omega

/-! ### reading back what was written, behind an arbitrary prefix -/

theorem small_byte (v : Nat) (h : v ≤ 0xfc) :
    (UInt8.ofNat v).toNat = v ∧ UInt8.ofNat v ≠ 0xfd ∧ UInt8.ofNat v ≠ 0xfe ∧ UInt8.ofNat v ≠ 0xff := by
  have hv : (UInt8.ofNat v).toNat = v := UInt8.toNat_ofNat_of_lt' (show v < 256 by omega)
  have ne : ∀ c : UInt8, 0xfc < c.toNat → UInt8.ofNat v ≠ c := fun c hc h2 => by rw [← h2] at hc; omega
  exact ⟨hv, ne _ (by decide), ne _ (by decide), ne _ (by decide)⟩

theorem revU64_small (p : Bytes) (v : Nat) (h : v ≤ 0xfc) : revU64 (p ++ [UInt8.ofNat v]) = (v, 1) := by
  obtain ⟨hv, n1, n2, n3⟩ := small_byte v h
  simp [revU64_snoc, vwidth, vval, n1, n2, n3, hv]

theorem revU64_marked (p : Bytes) (f : UInt8) (k v : Nat) (hk : vwidth f = k) (hk0 : k ≠ 0) (h : v < 256 ^ k) :
    revU64 (p ++ (toBE k v ++ [f])) = (v, (((toBE k v ++ [f]).length : Nat) : Int)) := by
  subst hk
  rw [← List.append_assoc, revU64_snoc, if_neg (by simp), vval, if_neg hk0, lastN_append' p _ _ (toBE_length _ v),
    be_toBE _ v h, List.length_append, toBE_length, List.length_singleton]

theorem revU64_put (p : Bytes) (v : Nat) (h : v < 2 ^ 64) :
    revU64 (p ++ putRevU64 v) = (v, ((putRevU64 v).length : Int)) := by
  unfold putRevU64
  split
  · exact revU64_small p v ‹_›
  split
  · exact revU64_marked p 0xfd 2 v rfl (by decide) (by omega)
  split
  · exact revU64_marked p 0xfe 4 v rfl (by decide) (by omega)
  · exact revU64_marked p 0xff 8 v rfl (by decide) (by omega)

theorem revU32_put (p : Bytes) (v : Nat) (h : v < 2 ^ 32) :
    revU32 (p ++ putRevU32 v) = (v, ((putRevU32 v).length : Int)) := by
  unfold putRevU32
  split
  · rw [revU32_snoc, if_neg (small_byte v ‹_›).2.2.2]
    exact revU64_small p v ‹_›
  split
  · rw [← List.append_assoc, revU32_snoc, if_neg (by decide), List.append_assoc]
    exact revU64_marked p 0xfd 2 v rfl (by decide) (by omega)
  · rw [← List.append_assoc, revU32_snoc, if_neg (by decide), List.append_assoc]
    exact revU64_marked p 0xfe 4 v rfl (by decide) (by omega)

theorem unzig_zigzag (v : Int) : unzig (zigzag v) = v := by
  unfold unzig zigzag
  split <;> split <;> omega

theorem zigzag_unzig (u : Nat) : zigzag (unzig u) = u := by
  unfold unzig zigzag
  split <;> split <;> omega

theorem zigzag_lt32 (v : Int) (h1 : -2147483648 ≤ v) (h2 : v ≤ 2147483647) : zigzag v < 2 ^ 32 := by
  unfold zigzag; split <;> omega

theorem zigzag_lt64 (v : Int) (h1 : -9223372036854775808 ≤ v) (h2 : v ≤ 9223372036854775807) :
    zigzag v < 2 ^ 64 := by
  unfold zigzag; split <;> omega

theorem revI32_put (p : Bytes) (v : Int) (h1 : -2147483648 ≤ v) (h2 : v ≤ 2147483647) :
    revI32 (p ++ putRevI32 v) = (v, ((putRevI32 v).length : Int)) := by
  have := putRevU32_pos (zigzag v)
  simp only [revI32, putRevI32, revU32_put p _ (zigzag_lt32 v h1 h2), unzig_zigzag]
  rw [if_neg (by omega)]

theorem revI64_put (p : Bytes) (v : Int) (h1 : -9223372036854775808 ≤ v) (h2 : v ≤ 9223372036854775807) :
    revI64 (p ++ putRevI64 v) = (v, ((putRevI64 v).length : Int)) := by
  have := putRevU64_pos (zigzag v)
  simp only [revI64, putRevI64, revU64_put p _ (zigzag_lt64 v h1 h2), unzig_zigzag]
  rw [if_neg (by omega)]

end SpecVerif
