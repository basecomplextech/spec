/-
The framing model `Mpx/Frame.lean` read back: a frame followed by any bytes yields its message, a
strict prefix of a frame yields none; by induction the reader returns what was written
(`readAll_stream`) and, from a stream cut anywhere, a prefix of it (`cut_delivers_prefix`).
-/
import SpecVerif.Mpx.Frame
namespace SpecVerif.Mpx.Frame
open SpecVerif

theorem frame_length (m : Bytes) : (frame m).length = 4 + m.length := by simp [frame]

theorem readOne_frame (m rest : Bytes) (h : m.length < 2 ^ 32) :
    readOne (frame m ++ rest) = .msg m rest := by
  have hd : (frame m ++ rest).drop 4 = m ++ rest := by
    rw [frame, List.append_assoc]; exact List.drop_left' (toBE_length ..)
  have ht : (frame m ++ rest).take 4 = toBE 4 m.length := by
    rw [frame, List.append_assoc]; exact List.take_left' (toBE_length ..)
  have h4 : ¬ 4 + m.length + rest.length < 4 := by omega
  have hl : ¬ m.length + rest.length < m.length := by omega
  simp [readOne, hd, ht, be_toBE 4 _ (by omega), frame_length, h4, hl]

theorem readOne_partial (m : Bytes) (k : Nat) (hk : k < (frame m).length) (h : m.length < 2 ^ 32) :
    readOne ((frame m).take k) = .needMore := by
  rw [frame_length] at hk
  unfold readOne
  split
  · rfl
  next c =>
    have hk4 : 4 ≤ k := by simp [frame_length] at c; omega
    have ht : ((frame m).take k).take 4 = toBE 4 m.length := by
      rw [List.take_take, Nat.min_eq_left hk4, frame]; exact List.take_left' (toBE_length ..)
    have : (((frame m).take k).drop 4).length < m.length := by simp [frame_length]; omega
    rw [ht, be_toBE 4 _ (by omega), if_pos this]

theorem stream_cons (m : Bytes) (ms : List Bytes) : stream (m :: ms) = frame m ++ stream ms := by
  simp [stream]

theorem readAll_stream (ms : List Bytes) (hm : ∀ m ∈ ms, m.length < 2 ^ 32) (fuel : Nat)
    (hf : ms.length < fuel) (tail : Bytes) (ht : readOne tail = .needMore) :
    readAll fuel (stream ms ++ tail) = (ms, tail) := by
  induction ms generalizing fuel with
  | nil =>
    cases fuel with
    | zero => omega
    | succ f => simp [readAll, stream, ht]
  | cons m ms ih =>
    cases fuel with
    | zero => omega
    | succ f =>
      rw [stream_cons, List.append_assoc]
      simp only [readAll, readOne_frame m _ (hm m (by simp))]
      rw [ih (fun x hx => hm x (by simp [hx])) f (by simp at hf; omega)]

theorem cut_delivers_prefix (ms : List Bytes) (hm : ∀ m ∈ ms, m.length < 2 ^ 32) (k : Nat) (fuel : Nat)
    (hf : ms.length < fuel) :
    ∃ j, (readAll fuel ((stream ms).take k)).1 = ms.take j := by
  induction ms generalizing k fuel with
  | nil =>
    cases fuel with
    | zero => omega
    | succ f => simp [stream, readAll, readOne]
  | cons m ms ih =>
    cases fuel with
    | zero => omega
    | succ f =>
      rw [stream_cons]
      by_cases c : k < (frame m).length
      · -- the cut falls inside the first frame: nothing is delivered
        refine ⟨0, ?_⟩
        rw [List.take_append_of_le_length (by omega)]
        simp only [readAll, readOne_partial m k c (hm m (by simp)), List.take_zero]
      · -- the first frame is complete: it is delivered and the rest is cut
        rw [List.take_append, List.take_of_length_le (by omega)]
        simp only [readAll, readOne_frame m _ (hm m (by simp))]
        obtain ⟨j, hj⟩ := ih (fun x hx => hm x (by simp [hx])) (k - (frame m).length) f (by simp at hf; omega)
        exact ⟨j + 1, by simp [hj]⟩

end SpecVerif.Mpx.Frame
