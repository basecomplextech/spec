/-
Parser round trip, `x_toks` for the parser function `x`: on the canonical tokens of a well-formed
subtree, followed by tokens that cannot continue it (`NotTok`), `x` returns the subtree and leaves
those tokens. Where the grammar has alternatives, the printed form of one is first shown not to be
read by the alternatives tried before it.
-/
import SpecVerif.Lang.Parser
namespace SpecVerif.Lang

/-! ### well-formedness: what the lexer can produce -/

/-- the text of an IDENT token: any string that is not a keyword -/
def IdName (s : String) : Prop := kwOf s = none

/-- a field / method / enum value name: an IDENT or one of the contextual keywords -/
def FName (s : String) : Prop := kwOf s = none ∨ ∃ k, kwOf s = some k ∧ k.isName = true

def BaseT.WF : BaseT → Prop
  | .name n => IdName n
  | .ref i n => IdName i ∧ IdName n
  | .any => True
  | .anyMessage => True

def Ty.WF : Ty → Prop
  | .base b => b.WF
  | .list b => b.WF

def Field.WF (f : Field) : Prop := FName f.name ∧ f.ty.WF
def SField.WF (f : SField) : Prop := FName f.name ∧ f.ty.WF
def EnumValue.WF (v : EnumValue) : Prop := FName v.name

def MInput.WF : MInput → Prop
  | .type b => b.WF
  | .fields fs => ∀ f ∈ fs, f.WF

def MOutput.WF : MOutput → Prop
  | .type b => b.WF
  | .fields fs => ∀ f ∈ fs, f.WF

def MChan.WF : MChan → Prop
  | .in_ t => t.WF
  | .out t => t.WF
  | .both i o => i.WF ∧ o.WF

def MTail.WF : MTail → Prop
  | .none => True
  | .oneway => True
  | .out o => o.WF
  | .chan c Option.none => c.WF
  | .chan c (Option.some o) => c.WF ∧ o.WF

def Method.WF (m : Method) : Prop := FName m.name ∧ m.input.WF ∧ m.tail.WF

def Def.WF : Def → Prop
  | .enum n vs => IdName n ∧ ∀ v ∈ vs, v.WF
  | .message n fs => IdName n ∧ ∀ f ∈ fs, f.WF
  | .struct n fs => IdName n ∧ ∀ f ∈ fs, f.WF
  | .service _ n ms => IdName n ∧ ∀ m ∈ ms, m.WF

def Import.WF (i : Import) : Prop := i.alias = "" ∨ IdName i.alias
def Opt.WF (o : Opt) : Prop := IdName o.name

def File.WF (f : File) : Prop :=
  (∀ i ∈ f.imports, i.WF) ∧ (∀ o ∈ f.options, o.WF) ∧ (∀ d ∈ f.defs, d.WF)

/-! ### tokens -/

theorem kwOf_text {s : String} {k : Kw} (h : kwOf s = some k) : k.text = s := by
  unfold kwOf at h
  simpa using List.find?_some h

/-- the next token is not `t` -/
def NotTok (t : Tok) (ts : List Tok) : Prop := ∀ r, ts ≠ t :: r

@[simp] theorem notTok_cons (t u : Tok) (r : List Tok) : NotTok t (u :: r) ↔ u ≠ t := by
  simp [NotTok]

@[simp] theorem expect_cons_self (c : Char) (r : List Tok) : expect c (.p c :: r) = some r := by
  simp [expect]

theorem expect_notTok {c : Char} {r : List Tok} (h : NotTok (.p c) r) : expect c r = none := by
  unfold expect
  split
  · rename_i d r'
    have : d ≠ c := by simpa using h
    simp [this]
  · rfl

theorem fieldName_nameTok {s : String} (h : FName s) (r : List Tok) :
    fieldName (nameTok s :: r) = some (s, r) := by
  unfold nameTok
  rcases h with h | ⟨k, hk, hn⟩
  · simp [h, fieldName]
  · simp [hk, fieldName, hn, kwOf_text hk]

theorem fieldName_p (c : Char) (r : List Tok) : fieldName (.p c :: r) = none := rfl

/-! ### first tokens: a name and a base type never start with punctuation, a type only with '[' -/

theorem nameTok_not_p (s : String) (c : Char) : nameTok s ≠ .p c := by
  unfold nameTok; split <;> simp

theorem notTok_baseT (c : Char) (b : BaseT) (r : List Tok) : NotTok (.p c) (b.toks ++ r) := by
  cases b <;> simp [BaseT.toks]

theorem notTok_ty {c : Char} (hc : c ≠ '[') (t : Ty) (r : List Tok) : NotTok (.p c) (t.toks ++ r) := by
  cases t with
  | base b => exact notTok_baseT c b r
  | list b => simpa [Ty.toks] using hc.symm

/-! ### types and fields -/

theorem baseType_toks (b : BaseT) (r : List Tok) (hr : NotTok (.p '.') r) :
    baseType (b.toks ++ r) = some (b, r) := by
  cases b with
  | name n => simp [BaseT.toks, baseType, expect_notTok hr]
  | ref i n => simp [BaseT.toks, baseType, identP]
  | any => simp [BaseT.toks, baseType]
  | anyMessage => simp [BaseT.toks, baseType]

theorem type_toks (t : Ty) (r : List Tok) (hr : NotTok (.p '.') r) :
    type_ (t.toks ++ r) = some (t, r) := by
  cases t with
  | base b => simp [Ty.toks, type_, expect_notTok (notTok_baseT '[' b r), baseType_toks b r hr]
  | list b => simp [Ty.toks, type_, baseType_toks b r hr]

theorem field_toks (f : Field) (hf : f.WF) (r : List Tok) : field (f.toks ++ r) = some (f, r) := by
  simp [Field.toks, field, fieldName_nameTok hf.1, type_toks f.ty, int_]

theorem enumValue_toks (v : EnumValue) (hv : v.WF) (r : List Tok) : enumValue (v.toks ++ r) = some (v, r) := by
  simp [EnumValue.toks, enumValue, fieldName_nameTok hv, int_]

theorem sfield_toks (f : SField) (hf : f.WF) (r : List Tok) : sfield (f.toks ++ r) = some (f, r) := by
  simp [SField.toks, sfield, fieldName_nameTok hf.1, type_toks f.ty]

/-! ### lists

Fuel is always bounded by the number of tokens printed, so that a caller only has to compare
lengths of token lists. -/

theorem fieldsToks_cons (sep : Char) (f : Field) (fs : List Field) :
    fieldsToks sep (f :: fs) = f.toks ++ (fs.map fun g => Tok.p sep :: g.toks).flatten := by
  induction fs generalizing f with
  | nil => simp [fieldsToks, sepToks]
  | cons g gs ih =>
    have := ih g
    simp only [fieldsToks, List.map_cons, sepToks] at this ⊢
    simp [this]

theorem fieldsRest_toks (sep : Char) (fs : List Field) (hfs : ∀ f ∈ fs, f.WF) {r : List Tok}
    (hr : NotTok (.p sep) r) (fuel : Nat)
    (hfuel : ((fs.map fun f => Tok.p sep :: f.toks).flatten).length < fuel) :
    fieldsRest sep fuel ((fs.map fun f => Tok.p sep :: f.toks).flatten ++ r) = some (fs, r) := by
  induction fs generalizing fuel with
  | nil =>
    cases fuel with
    | zero => omega
    | succ fuel => simp [fieldsRest, expect_notTok hr]
  | cons f fs ih =>
    cases fuel with
    | zero => omega
    | succ fuel =>
      simp only [List.map_cons, List.flatten_cons, List.length_append, List.length_cons] at hfuel
      simp [fieldsRest, field_toks f (hfs f (by simp)),
        ih (fun g hg => hfs g (by simp [hg])) fuel (by omega)]

theorem fields_toks (sep : Char) (fs : List Field) (hfs : ∀ f ∈ fs, f.WF) (c : Char) (hc : c ≠ sep)
    (r : List Tok) (fuel : Nat) (hfuel : (fieldsToks sep fs).length < fuel) :
    fields sep fuel (fieldsToks sep fs ++ .p c :: r) = some (fs, .p c :: r) := by
  have hr : NotTok (.p sep) (.p c :: r) := by simpa using hc
  cases fs with
  | nil =>
    simpa [fields, fieldsToks, sepToks, field, fieldName] using fieldsRest_toks sep [] (by simp) hr fuel hfuel
  | cons f fs =>
    rw [fieldsToks_cons, List.length_append] at hfuel
    simp [fields, fieldsToks_cons, field_toks f (hfs f (by simp)),
      fieldsRest_toks sep fs (fun g hg => hfs g (by simp [hg])) hr fuel (by omega)]

/-- `p` fails on what follows, so no element prints as `[]`: there are at most as many elements as tokens -/
theorem many_toks {α : Type} (p : P α) (pr : α → List Tok) (xs : List α) (r : List Tok)
    (hp : ∀ x ∈ xs, ∀ r', p (pr x ++ r') = some (x, r')) (hr : p r = none)
    (fuel : Nat) (hfuel : ((xs.map pr).flatten).length < fuel) :
    many p fuel ((xs.map pr).flatten ++ r) = some (xs, r) := by
  induction xs generalizing fuel with
  | nil =>
    cases fuel with
    | zero => omega
    | succ fuel => simp [many, hr]
  | cons x xs ih =>
    cases fuel with
    | zero => omega
    | succ fuel =>
      have hx : pr x ≠ [] := fun h => by
        have := hp x (by simp) r
        rw [h, List.nil_append, hr] at this
        cases this
      have := List.length_pos_iff.mpr hx
      simp only [List.map_cons, List.flatten_cons, List.length_append] at hfuel
      simp [many, hp x (by simp), ih (fun y hy => hp y (by simp [hy])) fuel (by omega)]

/-! ### methods: what a parenthesised field list is not -/

theorem notTok_fields {c : Char} (hc : c ≠ ')') (sep : Char) (fs : List Field) (r : List Tok) :
    NotTok (.p c) (fieldsToks sep fs ++ .p ')' :: r) := by
  cases fs with
  | nil => simpa [fieldsToks, sepToks] using hc.symm
  | cons f fs => rw [fieldsToks_cons]; exact (notTok_cons ..).mpr (nameTok_not_p f.name c)

theorem baseType_rest {t : Tok} {r : List Tok} (hr : NotTok (.p '.') r) {b : BaseT} {r' : List Tok}
    (h : baseType (t :: r) = some (b, r')) : r' = r := by
  cases t with
  | ident a =>
    simp only [baseType, expect_notTok hr, Option.bind_none, Option.some.injEq, Prod.mk.injEq] at h
    exact h.2.symm
  | kw k =>
    simp only [baseType] at h
    split at h
    · cases h; rfl
    · split at h
      · cases h; rfl
      · cases h
  | _ => cases h

/-- if `baseType` succeeds on a field list it has read the first field's name; that field's type follows -/
theorem baseType_fields {c : Char} (hc : c ≠ '[') (fs : List Field) (r : List Tok) {b : BaseT}
    {r' : List Tok} (h : baseType (fieldsToks ',' fs ++ .p ')' :: r) = some (b, r')) : expect c r' = none := by
  cases fs with
  | nil => cases h
  | cons f fs =>
    rw [fieldsToks_cons] at h
    simp only [Field.toks, List.append_assoc, List.cons_append, List.nil_append] at h
    rw [baseType_rest (notTok_ty (by decide) f.ty _) h]
    exact expect_notTok (notTok_ty hc f.ty _)

theorem parenBase_fields (fs : List Field) (r : List Tok) :
    parenBase (.p '(' :: (fieldsToks ',' fs ++ .p ')' :: r)) = none := by
  cases h : baseType (fieldsToks ',' fs ++ .p ')' :: r) with
  | none => simp [parenBase, h]
  | some x => simp [parenBase, h, baseType_fields (c := ')') (by decide) fs r h]

theorem mChan_fields (fs : List Field) (r : List Tok) :
    mChan (.p '(' :: (fieldsToks ',' fs ++ .p ')' :: r)) = none := by
  have h1 := expect_notTok (notTok_fields (c := '<') (by decide) ',' fs r)
  have h2 := expect_notTok (notTok_fields (c := '[') (by decide) ',' fs r)
  cases h : baseType (fieldsToks ',' fs ++ .p ')' :: r) with
  | none => simp [mChan, chanInP, chanOutP, type_, h1, h2, h]
  | some x => simp [mChan, chanInP, chanOutP, type_, h1, h2, h, baseType_fields (c := '-') (by decide) fs r h]

/-! ### methods -/

theorem parenFields_toks (fs : List Field) (hfs : ∀ f ∈ fs, f.WF) (r : List Tok) (fuel : Nat)
    (hfuel : (fieldsToks ',' fs).length < fuel) :
    parenFields fuel (.p '(' :: (fieldsToks ',' fs ++ .p ')' :: r)) = some (fs, r) := by
  simp [parenFields, fields_toks ',' fs hfs ')' (by decide) r fuel hfuel]

theorem parenBase_toks (b : BaseT) (r : List Tok) :
    parenBase (.p '(' :: (b.toks ++ .p ')' :: r)) = some (b, r) := by
  simp [parenBase, baseType_toks b]

theorem mInput_toks (i : MInput) (hi : i.WF) (r : List Tok) (fuel : Nat) (hfuel : i.toks.length < fuel) :
    mInput fuel (i.toks ++ r) = some (i, r) := by
  cases i with
  | type b => simp [MInput.toks, mInput, parenBase_toks b]
  | fields fs =>
    simp only [MInput.toks, List.length_append, List.length_cons] at hfuel
    simp [MInput.toks, mInput, parenBase_fields, parenFields_toks fs hi r fuel (by omega)]

theorem mOutput_toks (o : MOutput) (ho : o.WF) (fuel : Nat) (hfuel : o.toks.length < fuel) (r : List Tok)
    (hr : NotTok (.p '.') r) : mOutput fuel (o.toks ++ r) = some (o, r) := by
  cases o with
  | type b => simp [MOutput.toks, mOutput, expect_notTok (notTok_baseT '(' b r), baseType_toks b r hr]
  | fields fs =>
    simp only [MOutput.toks, List.length_append, List.length_cons] at hfuel
    simp [MOutput.toks, mOutput, parenFields_toks fs ho r fuel (by omega)]

theorem chanInP_toks (t : Ty) (r : List Tok) (hr : NotTok (.p '.') r) :
    chanInP (chanIn t ++ r) = some (t, r) := by
  simp [chanIn, chanInP, type_toks t r hr]

theorem chanOutP_toks (t : Ty) (r : List Tok) :
    chanOutP (chanOut t ++ r) = some (t, r) := by
  simp [chanOut, chanOutP, type_toks t]

theorem mChan_toks (c : MChan) (r : List Tok) : mChan (c.toks ++ r) = some (c, r) := by
  cases c with
  | in_ t => simp [MChan.toks, mChan, chanInP_toks t, expect]
  | out t =>
    have : NotTok (.p '<') (chanOut t ++ .p ')' :: r) := by
      simpa [chanOut] using notTok_ty (c := '<') (by decide) t (.p '-' :: .p '>' :: .p ')' :: r)
    simp [MChan.toks, mChan, chanInP, expect_notTok this, chanOutP_toks t]
  | both i o => simp [MChan.toks, mChan, chanInP_toks i, chanOutP_toks o]

theorem notTok_mOutput {c : Char} (hc : c ≠ '(') (o : MOutput) {r : List Tok} : NotTok (.p c) (o.toks ++ r) := by
  cases o with
  | type b => exact notTok_baseT c b r
  | fields fs => simpa [MOutput.toks] using hc.symm

theorem notTok_oneway_mOutput (o : MOutput) (r : List Tok) : NotTok (.kw .oneway) (o.toks ++ r) := by
  cases o with
  | type b => cases b <;> simp [MOutput.toks, BaseT.toks]
  | fields fs => simp [MOutput.toks]

theorem notTok_mChan {t : Tok} (ht : t ≠ .p '(') (c : MChan) {r : List Tok} : NotTok t (c.toks ++ r) := by
  cases c <;> simpa [MChan.toks] using ht.symm

theorem mChan_mOutput (o : MOutput) (r : List Tok) : mChan (o.toks ++ r) = none := by
  cases o with
  | type b => simp [MOutput.toks, mChan, expect_notTok (notTok_baseT '(' b r)]
  | fields fs => simpa [MOutput.toks] using mChan_fields fs r

theorem mTail_eq {fuel : Nat} {ts : List Tok} (h1 : NotTok (.p ';') ts) (h2 : NotTok (.kw .oneway) ts) :
    mTail fuel ts =
      match mChan ts with
      | some (c, r) =>
        (match expect ';' r with
         | some r => some (.chan c none, r)
         | none => (mOutput fuel r).bind fun (o, r) => (expect ';' r).bind fun r => some (.chan c (some o), r))
      | none => (mOutput fuel ts).bind fun (o, r) => (expect ';' r).bind fun r => some (.out o, r) := by
  unfold NotTok at h2
  -- `simp` uses `h2` to rule out the `oneway` alternative of the match
  simp only [mTail, expect_notTok h1]
  rfl

theorem mTail_toks (t : MTail) (ht : t.WF) (r : List Tok) (fuel : Nat) (hfuel : t.toks.length < fuel) :
    mTail fuel (t.toks ++ .p ';' :: r) = some (t, r) := by
  cases t with
  | none => simp [MTail.toks, mTail]
  | oneway => simp [MTail.toks, mTail, expect]
  | out o =>
    simp only [MTail.toks]
    rw [mTail_eq (notTok_mOutput (by decide) o) (notTok_oneway_mOutput o _), mChan_mOutput]
    simp [mOutput_toks o ht fuel hfuel]
  | chan c o =>
    cases o with
    | none =>
      simp only [MTail.toks]
      rw [mTail_eq (notTok_mChan (by simp) c) (notTok_mChan (by simp) c), mChan_toks c]
      simp
    | some o =>
      simp only [MTail.toks, List.length_append, List.append_assoc] at hfuel ⊢
      rw [mTail_eq (notTok_mChan (by simp) c) (notTok_mChan (by simp) c), mChan_toks c]
      simp [expect_notTok (notTok_mOutput (c := ';') (by decide) o),
        mOutput_toks o ht.2 fuel (by omega)]

theorem method_toks (m : Method) (hm : m.WF) (r : List Tok) (fuel : Nat) (hfuel : m.toks.length < fuel) :
    method fuel (m.toks ++ r) = some (m, r) := by
  simp only [Method.toks, List.length_append, List.length_cons] at hfuel
  simp [Method.toks, method, fieldName_nameTok hm.1, mInput_toks m.input hm.2.1 _ fuel (by omega),
    mTail_toks m.tail hm.2.2 r fuel (by omega)]

/-! ### definitions -/

theorem definition_toks (d : Def) (hd : d.WF) (r : List Tok) (fuel : Nat) (hfuel : d.toks.length < fuel) :
    definition fuel (d.toks ++ r) = some (d, r) := by
  cases d <;> simp only [Def.toks, List.length_append, List.length_cons] at hfuel
  case enum n vs =>
    simp [Def.toks, definition, identP, braces,
      many_toks enumValue EnumValue.toks vs (.p '}' :: r) (fun v hv => enumValue_toks v (hd.2 v hv)) rfl fuel
        (by omega)]
  case message n fs =>
    simp [Def.toks, definition, identP, braces, fields_toks ';' fs hd.2 '}' (by decide) r fuel (by omega)]
  case struct n fs =>
    simp [Def.toks, definition, identP, braces,
      many_toks sfield SField.toks fs (.p '}' :: r) (fun f hf => sfield_toks f (hd.2 f hf)) rfl fuel (by omega)]
  case service sub n ms =>
    have := many_toks (method fuel) Method.toks ms (.p '}' :: r)
      (fun m hm r' => method_toks m (hd.2 m hm) r' fuel
        (by have := (List.sublist_flatten_of_mem (List.mem_map_of_mem (f := Method.toks) hm)).length_le; omega))
      rfl fuel (by omega)
    cases sub <;> simp [Def.toks, definition, identP, braces, this]

theorem definitions_succ (fuel k : Nat) {ts : List Tok} (h : ts ≠ []) :
    definitions fuel (k + 1) ts = (definition fuel ts).bind fun (d, r) => (definitions fuel k r).map (d :: ·) := by
  cases ts with
  | nil => exact absurd rfl h
  | cons t ts => rfl

theorem definitions_toks (ds : List Def) (hds : ∀ d ∈ ds, d.WF) (fuel k : Nat)
    (hfuel : ((ds.map Def.toks).flatten).length < fuel) (hk : ((ds.map Def.toks).flatten).length < k) :
    definitions fuel k ((ds.map Def.toks).flatten) = some ds := by
  induction ds generalizing k with
  | nil =>
    cases k with
    | zero => omega
    | succ k => rfl
  | cons d ds ih =>
    simp only [List.map_cons, List.flatten_cons, List.length_append] at hfuel hk ⊢
    have hd : d.toks ≠ [] := by cases d <;> simp [Def.toks]
    have := List.length_pos_iff.mpr hd
    cases k with
    | zero => omega
    | succ k =>
      simp [definitions_succ fuel k (List.append_ne_nil_of_left_ne_nil hd _),
        definition_toks d (hds d (by simp)) _ fuel (by omega),
        ih (fun x hx => hds x (by simp [hx])) k (by omega) (by omega)]

/-! ### file -/

/-- the optional section `k ( … )` of `File.toks`, absent when there is nothing in it -/
def sectionToks {α : Type} (k : Kw) (pr : α → List Tok) (xs : List α) : List Tok :=
  if xs.isEmpty then [] else [.kw k, .p '('] ++ (xs.map pr).flatten ++ [.p ')']

theorem File.toks_eq (f : File) :
    f.toks = sectionToks .import_ Import.toks f.imports ++
      (sectionToks .options Opt.toks f.options ++ (f.defs.map Def.toks).flatten) :=
  List.append_assoc ..

theorem sectionToks_head {α : Type} {k k' : Kw} (hk : k' ≠ k) (pr : α → List Tok) (xs : List α) {r : List Tok}
    (hr : NotTok (.kw k') r) : NotTok (.kw k') (sectionToks k pr xs ++ r) := by
  cases xs with
  | nil => exact hr
  | cons x xs => simp [sectionToks, Ne.symm hk]

theorem parenMany_toks {α : Type} (p : P α) (pr : α → List Tok) (xs : List α) (r : List Tok)
    (hp : ∀ x ∈ xs, ∀ r', p (pr x ++ r') = some (x, r')) (hr : p (.p ')' :: r) = none)
    (fuel : Nat) (hfuel : ((xs.map pr).flatten).length < fuel) :
    parenMany p fuel (.p '(' :: ((xs.map pr).flatten ++ .p ')' :: r)) = some (xs, r) := by
  simp [parenMany, many_toks p pr xs _ hp hr fuel hfuel]

theorem importP_toks (i : Import) (r : List Tok) : importP (i.toks ++ r) = some (i, r) := by
  obtain ⟨a, id⟩ := i
  by_cases h : a = ""
  · subst h
    simp [Import.toks, importP, strP]
  · simp [Import.toks, h, importP, strP, identP]

theorem optP_toks (o : Opt) (r : List Tok) : optP (o.toks ++ r) = some (o, r) := by
  simp [Opt.toks, optP, identP, strP]

theorem importsP_toks (is : List Import) (r : List Tok) (hr : NotTok (.kw .import_) r) (fuel : Nat)
    (hfuel : (sectionToks .import_ Import.toks is).length < fuel) :
    importsP fuel (sectionToks .import_ Import.toks is ++ r) = some (is, r) := by
  cases is with
  | nil => exact importsP.eq_2 fuel r hr    -- the side condition of `eq_2` is `NotTok` unfolded
  | cons i is =>
    simp only [sectionToks, List.isEmpty_cons, Bool.false_eq_true, ↓reduceIte, List.length_append,
      List.length_cons] at hfuel
    simpa [sectionToks, importsP] using
      parenMany_toks importP Import.toks (i :: is) r (fun i _ => importP_toks i) rfl fuel (by omega)

theorem optionsP_toks (os : List Opt) (r : List Tok) (hr : NotTok (.kw .options) r) (fuel : Nat)
    (hfuel : (sectionToks .options Opt.toks os).length < fuel) :
    optionsP fuel (sectionToks .options Opt.toks os ++ r) = some (os, r) := by
  cases os with
  | nil => exact optionsP.eq_2 fuel r hr
  | cons o os =>
    simp only [sectionToks, List.isEmpty_cons, Bool.false_eq_true, ↓reduceIte, List.length_append,
      List.length_cons] at hfuel
    simpa [sectionToks, optionsP] using
      parenMany_toks optP Opt.toks (o :: os) r (fun o _ => optP_toks o) rfl fuel (by omega)

theorem defs_head (ds : List Def) {k : Kw} (hk : k = .import_ ∨ k = .options) :
    NotTok (.kw k) (ds.map Def.toks).flatten := by
  cases ds with
  | nil => simp [NotTok]
  | cons d ds => rcases hk with rfl | rfl <;> cases d <;> simp [Def.toks] <;> split <;> simp

end SpecVerif.Lang
