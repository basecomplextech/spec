/-
C13 at the parser level.  With the same fuel the parser's answer for a value does not depend on the bytes
in front of it; its answers do not depend on the fuel once it is sufficient; whenever it accepts with size
`n` the probe `decodeTypeSize` reports exactly `n` (so OpenValue returns exactly the parsed value).
-/
import SpecVerif.Lemmas.Parse
namespace SpecVerif
open Pinned

section
variable (F : FloatOps) {dec : Bytes → Res (Table × Nat)} {get : Table → Bytes → Nat → Res Bytes}
  {len : Table → Nat}

theorem parseContainer_local (hd : LocalDec dec) (fuel : Nat) (q p s : Bytes) (hs : s ≠ [])
    (h : parseContainer F dec get len fuel (q ++ s) = .ok s.length) :
    parseContainer F dec get len fuel (p ++ s) = .ok s.length := by
  cases fuel with
  | zero => cases h
  | succ f => exact container_local hd (fun _ _ _ _ => childLoop_size _ _) q p s hs h

theorem parseValue_local (fuel : Nat) (q p s : Bytes) (hs : s ≠ [])
    (h : parseValue F fuel (q ++ s) = .ok s.length) : parseValue F fuel (p ++ s) = .ok s.length := by
  cases fuel with
  | zero => simp [parseValue] at h
  | succ f =>
    obtain ⟨x, t, rfl⟩ := (snoc_cases s).resolve_left hs
    have ty : ∀ y : Bytes, (decodeType (y ++ (x ++ [t]))).1 = t := fun y => by
      rw [← List.append_assoc, decodeType_snoc]
    rw [parseValue_succ, ty] at h ⊢
    have hr := (guardSize_ok.mp h).1
    suffices branch F t f (p ++ (x ++ [t])) = .ok (x ++ [t]).length from guardSize_ok.mpr ⟨this, by simp⟩
    have hg := branch_cases F t
    generalize branch F t = g at hg hr ⊢
    cases hg with
    | bool _ => simpa only [← List.append_assoc, decodeType_snoc] using hr
    | scalar d hd => exact sizeOf_local hd q p _ hs hr
    | container K _ => exact parseContainer_local F K.good.loc f q p _ hs hr
    | unknown => cases hr

/-! ### fuel: any non-panic answer is the same under any larger fuel -/

def Stable (g : Nat → Bytes → Res Nat) (f : Nat) : Prop :=
  ∀ b r, g f b = r → r ≠ .panic → g (f + 1) b = r

theorem parseValue_stable (f : Nat)
    (hC : ∀ dec get len, Stable (parseContainer F dec get len) f) : Stable (parseValue F) (f + 1) := by
  intro b r h hne
  rw [parseValue_succ] at h ⊢
  have hg := branch_cases F (decodeType b).1
  generalize branch F (decodeType b).1 = g at hg h ⊢
  cases hg with
  | bool _ => exact h
  | scalar d _ => exact h
  | @container dec get len _ _ =>
    by_cases c : parseContainer F dec get len f b = .panic
    · rw [c] at h; exact absurd h.symm hne
    · rw [hC _ _ _ b _ rfl c]; exact h
  | unknown => exact h

theorem parse_stable : ∀ f,
    Stable (parseValue F) f ∧ ∀ dec get len, Stable (parseContainer F dec get len) f
  | 0 => ⟨fun _ _ h hne => by simp only [parseValue] at h; exact absurd h.symm hne,
      fun _ _ _ _ _ h hne => absurd h.symm hne⟩
  | f+1 => ⟨parseValue_stable F f (parse_stable f).2,
      fun _ _ _ => container_mono fun _ _ _ => childLoop_mono (parse_stable f).1 _ _⟩

theorem parseValue_fuel_mono (f g : Nat) (hfg : f ≤ g) (b : Bytes) (r : Res Nat)
    (h : parseValue F f b = r) (hne : r ≠ .panic) : parseValue F g b = r := by
  induction g with
  | zero =>
    obtain rfl : f = 0 := by omega
    exact h
  | succ g ih =>
    by_cases c : f = g + 1
    · subst c; exact h
    · exact (parse_stable F g).1 b r (ih (by omega)) hne

end

/-! ### the parser and the probe -/

theorem parseContainer_size {F : FloatOps} {dec : Bytes → Res (Table × Nat)}
    {get : Table → Bytes → Nat → Res Bytes} {len : Table → Nat} {fuel : Nat} {b : Bytes} {n : Nat}
    (h : parseContainer F dec get len fuel b = .ok n) : ∃ t, dec b = .ok (t, n) ∧ n ≤ b.length := by
  cases fuel with
  | zero => cases h
  | succ fuel =>
    obtain ⟨t, ht, hn, -⟩ := container_size (fun _ _ _ _ => childLoop_size _ _) h
    exact ⟨t, ht, hn⟩

theorem parseValue_nil (F : FloatOps) (f : Nat) : parseValue F (f + 1) [] = .err .type 0 := by
  rw [parseValue_succ]; rfl

theorem parse_probe_agree (F : FloatOps) (fuel : Nat) (b : Bytes) (n : Nat)
    (h : parseValue F fuel b = .ok n) : b ≠ [] ∧ ∃ t, decodeTypeSize b = .ok (t, n) := by
  cases fuel with
  | zero => simp [parseValue] at h
  | succ f =>
    rcases snoc_cases b with rfl | ⟨x, t, rfl⟩
    · rw [parseValue_nil] at h; cases h
    · refine ⟨by simp, t, ?_⟩
      rw [parseValue_succ, decodeType_snoc] at h
      have hr := (guardSize_ok.mp h).1
      have hg := branch_cases F t
      generalize branch F t = g at hg hr
      cases hg with
      | bool hk =>
        simp only [decodeType_snoc] at hr; cases hr
        exact probe_of_layout (layout_bool hk) rfl
      | scalar d hd => exact sizeOf_probe hd x t n hr
      | container K _ =>
        obtain ⟨tb, htb, -⟩ := parseContainer_size hr
        exact K.good.probe x t tb n htb
      | unknown => cases hr

end SpecVerif
