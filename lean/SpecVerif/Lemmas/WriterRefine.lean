/-
The writer state machine refines the pinned layout: emitting a value tree through the operations of
Writer/Model.lean appends exactly `enc` of the tree to the buffer, restores the stack and enters the child
in its parent's table (mutual induction over the tree).
A live writer is written `setSt w s` with `w.err = none`; every operation on it is an equation
`op (setSt w s) = (setSt w s', out)`, so a run of operations is evaluated by rewriting. A child goes into
a slot of its parent: `none` = next element of a list, `some t` = field `t` of a message.
-/
import SpecVerif.Lemmas.WriterStep
import SpecVerif.Lemmas.MsgTable
namespace SpecVerif.Writer
open SpecVerif

mutual
/-- a value tree: leaves carry their encoded bytes (any scalar / string / bytes / struct value) -/
inductive Node where
  | leaf (b : Bytes)
  | list (es : Nodes)
  | msg (fs : Flds)
inductive Nodes where
  | nil
  | cons (n : Node) (ns : Nodes)
inductive Flds where
  | nil
  | cons (tag : Nat) (n : Node) (fs : Flds)
end

mutual
def Node.enc : Node → Bytes
  | .leaf b => b
  | .list es => encList es.encs
  | .msg fs => encMsg fs.encs
def Nodes.encs : Nodes → List Bytes
  | .nil => []
  | .cons n ns => n.enc :: ns.encs
def Flds.encs : Flds → List (Nat × Bytes)
  | .nil => []
  | .cons t n fs => (t, n.enc) :: fs.encs
end

/-! ### emission through the state machine (`idx` only names errors) -/

mutual
/-- a child of a list (`tag = none`) or of a message (`tag = some t`) -/
def emitChild (idx : Nat) (tag : Option Nat) : Node → W → W
  | .leaf b, w =>
    let w1 := (writeValue w idx b).1
    match tag with
    | none => (element w1 idx).1
    | some t => (field w1 idx t).1
  | .list es, w =>
    let w1 := match tag with
      | none => beginElement w idx
      | some t => beginField w idx t
    (end_ (emitElems idx es (beginList w1)) idx).1
  | .msg fs, w =>
    let w1 := match tag with
      | none => beginElement w idx
      | some t => beginField w idx t
    (end_ (emitFlds idx fs (beginMessage w1)) idx).1
def emitElems (idx : Nat) : Nodes → W → W
  | .nil, w => w
  | .cons n ns, w => emitElems idx ns (emitChild idx none n w)
def emitFlds (idx : Nat) : Flds → W → W
  | .nil, w => w
  | .cons t n fs, w => emitFlds idx fs (emitChild idx (some t) n w)
end

def emitRoot (idx : Nat) : Node → W → W × Out
  | .leaf b, w => end_ (writeValue w idx b).1 idx
  | .list es, w => end_ (emitElems idx es (beginList w)) idx
  | .msg fs, w => end_ (emitFlds idx fs (beginMessage w)) idx

/-! ### what a written child leaves behind -/

def setSt (w : W) (s : WState) : W := { w with st := some s }

@[simp] theorem setSt_err (w : W) (s : WState) : (setSt w s).err = w.err := rfl
@[simp] theorem setSt_st (w : W) (s : WState) : (setSt w s).st = some s := rfl
@[simp] theorem setSt_setSt (w : W) (s t : WState) : setSt (setSt w s) t = setSt w t := rfl

theorem setSt_self (w : W) (s : WState) (hs : w.st = some s) : setSt w s = w := by
  cases w; simp_all [setSt]

/-- the state after a child with bytes `b` was written into the list `l` / the message `m` -/
def addElem (st : WState) (b : Bytes) (l : Entry) : WState :=
  { st with buf := st.buf ++ b, elements := st.elements ++ [(st.buf ++ b).length - l.start] }

def addFld (st : WState) (b : Bytes) (tag : Nat) (m : Entry) : WState :=
  { st with buf := st.buf ++ b,
            fields := st.fields.take m.tableStart ++
              insertField (tag, (st.buf ++ b).length - m.start) (st.fields.drop m.tableStart) }

def addChild (st : WState) (b : Bytes) : Option Nat → Entry → WState
  | none, l => addElem st b l
  | some t, m => addFld st b t m

def addElems (l : Entry) (bs : List Bytes) (st : WState) : WState :=
  bs.foldl (fun st b => addElem st b l) st

def addAll (m : Entry) (xs : List (Nat × Bytes)) (st : WState) : WState :=
  xs.foldl (fun st f => addFld st f.2 f.1 m) st

theorem addFld_fields_len (st : WState) (m : Entry) (b : Bytes) (t : Nat) (hts : m.tableStart ≤ st.fields.length) :
    m.tableStart ≤ (addFld st b t m).fields.length := by
  simp only [addFld, List.length_append, List.length_take]; omega

theorem addElems_spec (l : Entry) : ∀ (bs : List Bytes) (st : WState), l.start ≤ st.buf.length →
    addElems l bs st = { st with buf := st.buf ++ bs.flatten,
                                 elements := st.elements ++ endOffsets (st.buf.length - l.start) bs } := by
  intro bs
  induction bs with
  | nil => intro st _; simp [addElems, endOffsets]
  | cons b bs ih =>
    intro st hle
    have : addElems l (b :: bs) st = addElems l bs (addElem st b l) := rfl
    rw [this, ih _ (by simp only [addElem, List.length_append]; omega)]
    have : st.buf.length + b.length - l.start = st.buf.length - l.start + b.length := by omega
    simp [addElem, endOffsets, this]

theorem addAll_spec (m : Entry) : ∀ (xs : List (Nat × Bytes)) (st : WState),
    m.start ≤ st.buf.length → m.tableStart ≤ st.fields.length →
    addAll m xs st = { st with
      buf := st.buf ++ (xs.map (·.2)).flatten,
      fields := st.fields.take m.tableStart ++
        ((xs.map (·.1)).zip (endOffsets (st.buf.length - m.start) (xs.map (·.2)))).foldl
          (fun acc f => insertField f acc) (st.fields.drop m.tableStart) } := by
  intro xs
  induction xs with
  | nil => intro st _ _; simp [addAll, endOffsets]
  | cons f xs ih =>
    intro st hle hts
    have : addAll m (f :: xs) st = addAll m xs (addFld st f.2 f.1 m) := rfl
    rw [this, ih _ (by simp only [addFld, List.length_append]; omega) (addFld_fields_len st m f.2 f.1 hts)]
    have : st.buf.length + f.2.length - m.start = st.buf.length - m.start + f.2.length := by omega
    have hl := List.length_take_of_le hts
    simp [addFld, endOffsets, this, List.take_left' hl, List.drop_left' hl]

theorem addAll_append (m : Entry) (xs ys : List (Nat × Bytes)) (st : WState) :
    addAll m ys (addAll m xs st) = addAll m (xs ++ ys) st :=
  (List.foldl_append ..).symm

theorem addAll_stack (m : Entry) (xs : List (Nat × Bytes)) (st : WState) : (addAll m xs st).stack = st.stack := by
  induction xs generalizing st with
  | nil => rfl
  | cons f xs ih => exact ih _

/-! ### the stack primitives on a stack written `stk ++ [e]` -/

section
variable {buf : Bytes} {stk : List Entry} {els : List Nat} {fls : List (Nat × Nat)}

theorem peek_snoc (e : Entry) : peek ⟨buf, stk ++ [e], els, fls⟩ = some e := by simp [peek]

theorem pop_snoc (e : Entry) : pop ⟨buf, stk ++ [e], els, fls⟩ = some (e, ⟨buf, stk, els, fls⟩) := by
  simp [pop]

theorem peek2_snoc (p e : Entry) : peek2 ⟨buf, stk ++ [p] ++ [e], els, fls⟩ = some p := by simp [peek2]

theorem popData_snoc (a stop : Nat) :
    popData ⟨buf, stk ++ [⟨a, stop, .data⟩], els, fls⟩ = some (stop, ⟨buf, stk, els, fls⟩) := by
  simp [popData, pop_snoc]

end

/-! ### what the stack admits: a child in a slot of its top entry, a data entry -/

/-- the entry `p` on top of the stack can take a child in the slot `tag` -/
def Slot (fls : List (Nat × Nat)) (p : Entry) : Option Nat → Prop
  | none => p.type_ = .list
  | some _ => p.type_ = .message ∧ p.tableStart ≤ fls.length

/-- `pushData` accepts: no data entry on top -/
def NotData (stk : List Entry) : Prop := ∀ p, stk.getLast? = some p → p.type_ ≠ .data

theorem NotData.nil : NotData [] := nofun

theorem NotData.snoc (stk : List Entry) {e : Entry} (h : e.type_ ≠ .data) : NotData (stk ++ [e]) := by
  intro p hp; simp at hp; exact hp ▸ h

theorem Slot.notData {fls : List (Nat × Nat)} {p : Entry} {tag : Option Nat} (h : Slot fls p tag) :
    p.type_ ≠ .data := by
  cases tag with
  | none => rw [show p.type_ = .list from h]; simp
  | some t => rw [h.1]; simp

/-! ### single operations on a live writer -/

def putChild (w : W) (idx : Nat) : Option Nat → W × Out
  | none => element w idx
  | some t => field w idx t

def beginSlot (w : W) (idx : Nat) : Option Nat → W
  | none => beginElement w idx
  | some t => beginField w idx t

/-- the entry `beginSlot` pushes at buffer position `a` -/
def marker (a : Nat) : Option Nat → Entry
  | none => ⟨a, 0, .element⟩
  | some t => ⟨a, t, .field⟩

theorem NotData.marker {stk : List Entry} {a : Nat} {tag : Option Nat} : NotData (stk ++ [marker a tag]) :=
  NotData.snoc stk (by cases tag <;> simp [Writer.marker])

section
variable {w : W} (he : w.err = none) (idx : Nat)
include he

theorem writeValue_live (s : WState) (hnd : NotData s.stack) (enc : Bytes) :
    writeValue (setSt w s) idx enc =
      (setSt w { s with buf := s.buf ++ enc,
                        stack := s.stack ++ [⟨s.buf.length, (s.buf ++ enc).length, .data⟩] }, .ok) := by
  unfold writeValue pushData peek
  simp only [setSt_err, he, setSt_st]
  cases hl : s.stack.getLast? with
  | none => simp [setSt, push, he]
  | some p => simp [hnd p hl, setSt, push, he]

theorem leaf_live (s : WState) (stk : List Entry) (p : Entry) (tag : Option Nat) (hst : s.stack = stk ++ [p])
    (hs : Slot s.fields p tag) (b : Bytes) :
    ∃ w1, writeValue (setSt w s) idx b = (w1, .ok) ∧
      putChild w1 idx tag = (setSt w (addChild s b tag p), .ok) := by
  obtain ⟨buf, _, els, fls⟩ := s
  subst hst
  refine ⟨_, writeValue_live he idx _ (NotData.snoc stk hs.notData) b, ?_⟩
  cases tag with
  | none =>
    simp only [putChild, element, setSt_err, he, setSt_st, popData_snoc, peek_snoc, show p.type_ = .list from hs,
      ↓reduceIte]
    simp [setSt, addChild, addElem, he]
  | some t =>
    simp only [putChild, field, setSt_err, he, setSt_st, popData_snoc, peek_snoc, hs.1, ↓reduceIte,
      insertAt_le _ hs.2]
    simp [setSt, addChild, addFld, he]

theorem beginList_live (s : WState) :
    beginList (setSt w s) =
      setSt w { s with stack := s.stack ++ [⟨s.buf.length, s.elements.length, .list⟩] } := by
  simp [beginList, push, setSt, he]

theorem beginMessage_live (s : WState) :
    beginMessage (setSt w s) =
      setSt w { s with stack := s.stack ++ [⟨s.buf.length, s.fields.length, .message⟩] } := by
  simp [beginMessage, push, setSt, he]

theorem beginSlot_live (s : WState) (stk : List Entry) (p : Entry) (tag : Option Nat)
    (hst : s.stack = stk ++ [p]) (hs : Slot s.fields p tag) :
    beginSlot (setSt w s) idx tag = setSt w { s with stack := s.stack ++ [marker s.buf.length tag] } := by
  obtain ⟨buf, stack, els, fls⟩ := s
  subst hst
  cases tag with
  | none => simp [beginSlot, beginElement, peek_snoc, show p.type_ = .list from hs, push, marker, setSt, he]
  | some t => simp [beginSlot, beginField, peek_snoc, hs.1, push, marker, setSt, he]

theorem end_live {s s1 : WState} {b : Bytes} (h : endTop s = .done s1 b) :
    end_ (setSt w s) idx = endParent (setSt w s) s1 idx b := by
  simp [end_, he, h]

end

/-! ### ending a container -/

/-- Go's `buf[start:]` right after `b` was appended at `start` -/
theorem slice?_appended (a b : Bytes) : slice? (a ++ b) a.length (a ++ b).length = some b := by
  rw [slice?_some _ _ _ (by simp) (Nat.le_refl _), List.take_length, List.drop_left]

theorem listTrailer_enc (es : List Bytes) :
    es.flatten ++ listTrailer es.flatten.length (endOffsets 0 es) = encList es := by
  simp [encList, listTrailer]

theorem msgTrailer_enc (fs : List (Nat × Bytes)) :
    (fs.map (·.2)).flatten ++
      msgTrailer (fs.map (·.2)).flatten.length
        (sortedEntries ((fs.map (·.1)).zip (endOffsets 0 (fs.map (·.2))))) = encMsg fs := by
  simp [encMsg, msgTrailer]

/-- the container on top of `s'` was begun in the state `s` over the entries `rest`; ending it leaves
`s` with the bytes `b` appended and a data entry that spans them -/
def EndsAs (s' s : WState) (rest : List Entry) (b : Bytes) : Prop :=
  endTop s' = .done { s with buf := s.buf ++ b,
                             stack := rest ++ [⟨s.buf.length, (s.buf ++ b).length, .data⟩] } b

theorem endTop_list (s : WState) (rest : List Entry) (hnd : NotData rest) (es : List Bytes) :
    EndsAs (addElems ⟨s.buf.length, s.elements.length, .list⟩ es
      { s with stack := rest ++ [⟨s.buf.length, s.elements.length, .list⟩] }) s rest (encList es) := by
  unfold EndsAs
  have hsl := slice?_appended s.buf (encList es)
  -- the filled state in closed form; `encList es` = the data already in the buffer ++ the trailer `endTop` appends
  rw [addElems_spec _ _ _ (Nat.le_refl _), ← listTrailer_enc] at *
  unfold endTop
  simp only [pop_snoc, Nat.sub_self, List.length_append, List.drop_left, List.take_left, Nat.add_sub_cancel_left,
    Nat.not_lt.mpr (Nat.le_add_right _ _), or_self, ↓reduceIte, peek, push, List.append_assoc] at hsl ⊢
  cases hr : rest.getLast? with
  | none => simp only [hsl]
  | some p => simp only [hnd p hr, ↓reduceIte, hsl]

theorem endTop_msg (s : WState) (rest : List Entry) (hnd : NotData rest) (fs : List (Nat × Bytes)) :
    EndsAs (addAll ⟨s.buf.length, s.fields.length, .message⟩ fs
      { s with stack := rest ++ [⟨s.buf.length, s.fields.length, .message⟩] }) s rest (encMsg fs) := by
  unfold EndsAs
  have hsl := slice?_appended s.buf (encMsg fs)
  rw [addAll_spec _ _ _ (Nat.le_refl _) (Nat.le_refl _), ← msgTrailer_enc] at *
  unfold endTop
  simp only [pop_snoc, Nat.sub_self, List.length_append, List.drop_left, List.take_left, Nat.add_sub_cancel_left,
    Nat.not_lt.mpr (Nat.le_add_right _ _), or_self, ↓reduceIte, peek, push, List.append_assoc,
    List.take_length, List.drop_length, sortedEntries] at hsl ⊢
  cases hr : rest.getLast? with
  | none => simp only [hsl]
  | some p => simp only [hnd p hr, ↓reduceIte, hsl]

theorem endTop_value (s : WState) (b : Bytes) :
    endTop { s with buf := s.buf ++ b, stack := [⟨s.buf.length, (s.buf ++ b).length, .data⟩] } =
      .done { s with buf := s.buf ++ b, stack := [] } b := by
  have hsl := slice?_appended s.buf b
  simp only [List.length_append] at hsl
  simp [endTop, pop, hsl]

theorem endParent_child (w : W) (idx : Nat) (result : Bytes) (s : WState) (stk : List Entry) (p : Entry)
    (tag : Option Nat) (hst : s.stack = stk ++ [p]) (hs : Slot s.fields p tag) (b : Bytes) (c : Nat) :
    endParent w { s with buf := s.buf ++ b,
                         stack := s.stack ++ [marker s.buf.length tag] ++ [⟨c, (s.buf ++ b).length, .data⟩] }
        idx result =
      (setSt w (addChild s b tag p), .built b) := by
  obtain ⟨buf, stack, els, fls⟩ := s
  subst hst
  have hsl := slice?_appended buf b
  cases tag with
  | none =>
    simp only [endParent, peek2_snoc, marker, popData_snoc, pop_snoc, peek_snoc, show p.type_ = .list from hs,
      ne_eq, not_true_eq_false, ↓reduceIte, hsl]
    rfl
  | some t =>
    simp only [endParent, peek2_snoc, marker, popData_snoc, pop_snoc, peek_snoc, hs.1, insertAt_le _ hs.2,
      ne_eq, not_true_eq_false, ↓reduceIte, hsl]
    rfl

theorem endParent_root (w : W) (s : WState) (idx : Nat) (result : Bytes) (hst : s.stack.dropLast = []) :
    (endParent w s idx result).2 = .built result := by
  simp [endParent, peek2, hst]

section
variable {w : W} (he : w.err = none) (idx : Nat) (s : WState)
include he

theorem end_child (stk : List Entry) (p : Entry) (tag : Option Nat) (hst : s.stack = stk ++ [p])
    (hs : Slot s.fields p tag) {s' : WState} {b : Bytes}
    (h : EndsAs s' { s with stack := s.stack ++ [marker s.buf.length tag] } (s.stack ++ [marker s.buf.length tag]) b) :
    end_ (setSt w s') idx = (setSt w (addChild s b tag p), .built b) := by
  rw [end_live he idx h]
  exact endParent_child _ idx _ s stk p tag hst hs _ _

theorem end_root {s s' : WState} {b : Bytes} (h : EndsAs s' s [] b) : (end_ (setSt w s') idx).2 = .built b := by
  rw [end_live he idx h]
  exact endParent_root _ _ idx _ rfl

theorem end_value_root (b : Bytes) :
    (end_ (setSt w { s with buf := s.buf ++ b, stack := [⟨s.buf.length, (s.buf ++ b).length, .data⟩] }) idx).2 =
      .built b := by
  rw [end_live he idx (endTop_value s b)]
  exact endParent_root _ _ idx _ rfl

end

/-! ### the refinement, by mutual induction over the tree -/

theorem emitChild_leaf (idx : Nat) (tag : Option Nat) (b : Bytes) (w : W) :
    emitChild idx tag (.leaf b) w = (putChild (writeValue w idx b).1 idx tag).1 := by
  cases tag <;> rfl

theorem emitChild_list (idx : Nat) (tag : Option Nat) (es : Nodes) (w : W) :
    emitChild idx tag (.list es) w = (end_ (emitElems idx es (beginList (beginSlot w idx tag))) idx).1 := by
  cases tag <;> rfl

theorem emitChild_msg (idx : Nat) (tag : Option Nat) (fs : Flds) (w : W) :
    emitChild idx tag (.msg fs) w = (end_ (emitFlds idx fs (beginMessage (beginSlot w idx tag))) idx).1 := by
  cases tag <;> rfl

mutual
theorem emitChild_spec (idx : Nat) {w : W} (he : w.err = none) (tag : Option Nat) :
    (n : Node) → (s : WState) → (stk : List Entry) → (p : Entry) → s.stack = stk ++ [p] →
    Slot s.fields p tag → emitChild idx tag n (setSt w s) = setSt w (addChild s n.enc tag p)
  | .leaf b, s, stk, p, hst, hs => by
    obtain ⟨w1, h1, h2⟩ := leaf_live he idx s stk p tag hst hs b
    rw [emitChild_leaf, h1, h2]
    rfl
  | .list es, s, stk, p, hst, hs => by
    rw [emitChild_list, beginSlot_live he idx s stk p tag hst hs, beginList_live he,
      emitElems_spec idx he es _ _ _ rfl rfl]
    exact congrArg Prod.fst (end_child he idx s stk p tag hst hs (endTop_list _ _ .marker _))
  | .msg fs, s, stk, p, hst, hs => by
    rw [emitChild_msg, beginSlot_live he idx s stk p tag hst hs, beginMessage_live he,
      emitFlds_spec idx he fs _ _ _ rfl rfl (Nat.le_refl _)]
    exact congrArg Prod.fst (end_child he idx s stk p tag hst hs (endTop_msg _ _ .marker _))

theorem emitElems_spec (idx : Nat) {w : W} (he : w.err = none) :
    (ns : Nodes) → (s : WState) → (stk : List Entry) → (l : Entry) → s.stack = stk ++ [l] →
    l.type_ = .list → emitElems idx ns (setSt w s) = setSt w (addElems l ns.encs s)
  | .nil, s, stk, l, hst, hl => rfl
  | .cons n ns, s, stk, l, hst, hl => by
    rw [emitElems, emitChild_spec idx he none n s stk l hst hl,
      emitElems_spec idx he ns (addChild s n.enc none l) stk l hst hl]
    rfl

theorem emitFlds_spec (idx : Nat) {w : W} (he : w.err = none) :
    (fs : Flds) → (s : WState) → (stk : List Entry) → (m : Entry) → s.stack = stk ++ [m] →
    m.type_ = .message → m.tableStart ≤ s.fields.length →
    emitFlds idx fs (setSt w s) = setSt w (addAll m fs.encs s)
  | .nil, s, stk, m, hst, hm, hts => rfl
  | .cons t n fs, s, stk, m, hst, hm, hts => by
    rw [emitFlds, emitChild_spec idx he (some t) n s stk m hst ⟨hm, hts⟩,
      emitFlds_spec idx he fs (addChild s n.enc (some t) m) stk m hst hm (addFld_fields_len s m _ t hts)]
    rfl
end

theorem emitChild_elem_spec (idx : Nat) : (n : Node) → (w : W) → (s : WState) → (base : List Entry) →
    (l : Entry) → w.err = none → w.st = some s → s.stack = base ++ [l] → l.type_ = .list →
    emitChild idx none n w =
      setSt w { s with buf := s.buf ++ n.enc,
                       elements := s.elements ++ [(s.buf ++ n.enc).length - l.start] } := by
  intro n w s base l he hs hst hl
  rw [← setSt_self w s hs]
  exact emitChild_spec idx he none n s base l hst hl

theorem emitChild_fld_spec (idx tag : Nat) : (n : Node) → (w : W) → (s : WState) → (base : List Entry) →
    (m : Entry) → w.err = none → w.st = some s → s.stack = base ++ [m] → m.type_ = .message →
    m.tableStart ≤ s.fields.length →
    emitChild idx (some tag) n w =
      setSt w { s with buf := s.buf ++ n.enc,
                       fields := s.fields.take m.tableStart ++
                         insertField (tag, (s.buf ++ n.enc).length - m.start) (s.fields.drop m.tableStart) } := by
  intro n w s base m he hs hst hm hts
  rw [← setSt_self w s hs]
  exact emitChild_spec idx he (some tag) n s base m hst ⟨hm, hts⟩

/-- a whole tree written through a fresh writer (any initial buffer content): the final `End` /
`Build` returns exactly the layout bytes of the tree -/
theorem emitRoot_spec (idx : Nat) (n : Node) (buf : Bytes) (r : Bool) :
    (emitRoot idx n (fresh buf r)).2 = .built n.enc := by
  have he : (fresh buf r).err = none := rfl
  have hw : fresh buf r = setSt (fresh buf r) ⟨buf, [], [], []⟩ := rfl
  rw [hw]
  cases n with
  | leaf b =>
    rw [emitRoot, writeValue_live he idx _ NotData.nil]
    exact end_value_root he idx ⟨buf, [], [], []⟩ b
  | list es =>
    rw [emitRoot, beginList_live he, emitElems_spec idx he es _ [] _ rfl rfl]
    exact end_root he idx (endTop_list ⟨buf, [], [], []⟩ [] .nil _)
  | msg fs =>
    rw [emitRoot, beginMessage_live he, emitFlds_spec idx he fs _ [] _ rfl rfl (Nat.le_refl _)]
    exact end_root he idx (endTop_msg ⟨buf, [], [], []⟩ [] .nil _)

end SpecVerif.Writer
