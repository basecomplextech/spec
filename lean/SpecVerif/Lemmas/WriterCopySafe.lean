/-
Copy / Merge from ARBITRARY source bytes keeps the writer invariant and never panics: the opened
source's index accessors are total (C02.message_accessors_safe), the destination operations are
(Lemmas/WriterInv.lean). With it `no_panic` holds for every program over the whole call alphabet.
-/
import SpecVerif.Lemmas.WriterInv
import SpecVerif.Props.C02
namespace SpecVerif.Writer
open SpecVerif

theorem copyLoop_good (M : MsgV) (hM : ∀ i, (∃ r, M.tagAt i = .ok r) ∧ ∃ v, M.fieldAt i = .ok v) (idx : Nat) :
    ∀ (k i : Nat) (w : W), WInv w → Good (copyLoop M idx k i w) := by
  intro k
  induction k with
  | zero => intro i w hw; exact ⟨hw, by simp [copyLoop]⟩
  | succ k ih =>
    intro i w hw
    obtain ⟨⟨r, hr⟩, ⟨v, hv⟩⟩ := hM i
    rw [copyLoop, hr]
    cases r with
    | none => exact ih (i + 1) w hw
    | some tag =>
      -- a field that is not there yet is written; the loop goes on while the writes succeed
      have hwrite := (fieldAny_good w idx tag v hw).andThen (ih (i + 1))
      have hh := hasField_good w tag hw
      simp only [hv]
      cases hb : hasField w tag with
      | panic => exact absurd hb hh
      | bool b =>
        cases b with
        | true => exact ih (i + 1) w hw
        | false => exact hwrite
      | _ => exact hwrite

theorem copyMsg_good (w : W) (idx : Nat) (src : Bytes) (hw : WInv w) : Good (copyMsg w idx src) := by
  unfold copyMsg openMessage
  rcases C02.message_accessors_safe src with ⟨e, he⟩ | ⟨m, hm, _, _, hidx⟩
  · rw [he]  -- counts as the empty message: the loop does not run
    exact ⟨hw, nofun⟩
  · rw [hm]
    exact copyLoop_good m (fun i => ⟨(hidx i).2.1, (hidx i).2.2.imp fun _ h => h.1⟩) idx _ _ w hw

theorem step_good_all (s : Sess) (idx : Nat) (c : Call) (hs : WInv s.w) :
    WInv (step s idx c).1.w ∧ (step s idx c).2 ≠ .panic := by
  have hop : ∀ w, WInv w → Good (c.op idx w) := by
    cases c with
    | copy h src => exact fun w hw => copyMsg_good w idx src hw
    | _ => exact Call.op_good idx _ rfl
  exact step_inv (Q := (· ≠ .panic)) s idx c hs hop (hop _ WInv_closedW).2 (by simp) (Call.out_not_panic c)

theorem runFrom_no_panic_all (s : Sess) (idx : Nat) (cs : List Call) (hs : WInv s.w) :
    ∀ o ∈ (runFrom s idx cs).2, o ≠ .panic := by
  induction cs generalizing s idx with
  | nil => intro o ho; cases ho
  | cons c cs ih =>
    intro o ho
    have hg := step_good_all s idx c hs
    rcases List.mem_cons.mp ho with h | h
    · rw [h]; exact hg.2
    · exact ih _ _ hg.1 o h

theorem runFrom_no_panic (s : Sess) (idx : Nat) (cs : List Call) (hs : WInv s.w)
    (hc : ∀ c ∈ cs, c.noCopy = true) : ∀ o ∈ (runFrom s idx cs).2, o ≠ .panic :=
  runFrom_no_panic_all s idx cs hs

end SpecVerif.Writer
