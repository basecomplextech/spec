/-
Reading back a container, the part common to lists and messages: the trailer that `encList` / `encMsg` write is
decoded to exactly the table written, and a table of fixed-width big-endian entries is read entry by entry.
-/
import SpecVerif.Lemmas.Access
import SpecVerif.Lemmas.Scalars
namespace SpecVerif
open Pinned

theorem tableBody_enc (isBig : Bool) {es : Nat} (p data table : Bytes) (n : Nat) (htl : table.length = n * es)
    (hd : data.length < 2 ^ 32) (ht : table.length < 2 ^ 32) :
    tableBody isBig es (p ++ data ++ table ++ putRevU32 data.length ++ putRevU32 table.length) =
      .ok (⟨table, data.length, isBig⟩,
        1 + (putRevU32 table.length).length + (putRevU32 data.length).length + table.length + data.length) := by
  have h1 := decodeSize_put (p ++ data ++ table ++ putRevU32 data.length) _ ht
  have h2 := decodeSize_put (p ++ data ++ table) _ hd
  simp only [tableBody, h1, Int.toNat_natCast, dropLastN_append, h2]
  -- no exit: both size varints valid, table present and a multiple of the entry size, data present
  rw [if_neg (by omega), if_neg (by omega), if_neg (by simp; omega), if_neg (by simp [htl]),
    if_neg (by simp; omega), window_put (p ++ data) table]

/-- the trailer written by EncodeListTable / EncodeMessageTable: `n` entries of the size of the form `big` -/
theorem decodeTable_enc (small bigc : UInt8) {esS esB : Nat} (hne : small ≠ bigc) (p : Bytes) {data table : Bytes}
    {big : Bool} (n : Nat) (htl : table.length = n * (if big then esB else esS))
    (hd : data.length < 2 ^ 32) (ht : table.length < 2 ^ 32) :
    decodeTable small bigc esS esB
        (p ++ (data ++ table ++ putRevU32 data.length ++ putRevU32 table.length ++
          [if big then bigc else small])) =
      .ok (⟨table, data.length, big⟩,
        (data ++ table ++ putRevU32 data.length ++ putRevU32 table.length ++
          [if big then bigc else small]).length) := by
  have hbig : ((if big then bigc else small) == bigc) = big := by cases big <;> simp [hne]
  simp only [← List.append_assoc, decodeTable_snoc, hbig]
  rw [if_neg (by cases big <;> simp), tableBody_enc big p data table n htl hd ht]
  simp only [List.length_append, List.length_singleton]
  congr 2; omega

theorem slice?_mid (b p v : Bytes) (h : p ++ v <+: b) : slice? b p.length (p.length + v.length) = some v := by
  obtain ⟨r, rfl⟩ := h
  rw [slice?_some _ _ _ (by omega) (by simp), mid_slice p v r]

theorem slice?_prefix {b a : Bytes} (h : a <+: b) : slice? b 0 a.length = some a := by
  simpa using slice?_mid b [] a h

/-! ### offset tables -/

theorem length_flatMap_width {α : Type} {f : α → Bytes} {w : Nat} (hw : ∀ a, (f a).length = w) (xs : List α) :
    (xs.flatMap f).length = xs.length * w := by
  induction xs with
  | nil => simp
  | cons x xs ih => rw [List.flatMap_cons, List.length_append, hw, ih, List.length_cons, Nat.succ_mul, Nat.add_comm]

theorem readBE_shift (a rest : Bytes) (off k : Nat) :
    readBE (a ++ rest) (a.length + off) k = readBE rest off k := by
  simp only [readBE, List.length_append, List.drop_append, List.drop_eq_nil_of_le (Nat.le_add_right _ _),
    Nat.add_sub_cancel_left, List.nil_append, Nat.add_assoc, Nat.add_le_add_iff_left]

theorem readBE_left {a rest : Bytes} {off k : Nat} (h : off + k ≤ a.length) :
    readBE (a ++ rest) off k = readBE a off k := by
  simp only [readBE, List.length_append, h, Nat.le_add_right_of_le h, ↓reduceIte]
  rw [List.drop_append_of_le_length (by omega), List.take_append_of_le_length (by simp; omega)]

theorem readBE_toBE (k v : Nat) (h : v < 256 ^ k) : readBE (toBE k v) 0 k = some v := by
  simp [readBE, List.take_of_length_le, be_toBE k v h]

theorem readBE_flatMap_entry {α : Type} {f : α → Bytes} (w : Nat) (hw : ∀ a, (f a).length = w)
    (xs : List α) (i : Nat) (hi : i < xs.length) (off k : Nat) (h : off + k ≤ w) :
    readBE (xs.flatMap f) (i * w + off) k = readBE (f xs[i]) off k := by
  induction xs generalizing i with
  | nil => simp at hi
  | cons x xs ih =>
    rw [List.flatMap_cons]
    cases i with
    | zero => rw [Nat.zero_mul, Nat.zero_add, readBE_left (by rw [hw]; exact h)]; rfl
    | succ j =>
      rw [show (j + 1) * w + off = (f x).length + (j * w + off) by rw [hw, Nat.succ_mul]; omega, readBE_shift]
      exact ih j (by simpa using hi)

theorem readBE_flatMap {k : Nat} (xs : List Nat) (i : Nat) (hi : i < xs.length)
    (hx : ∀ x ∈ xs, x < 256 ^ k) :
    readBE (xs.flatMap fun o => toBE k o) (i * k) k = some (xs[i]) := by
  rw [← readBE_toBE k xs[i] (hx _ (List.getElem_mem hi))]
  exact readBE_flatMap_entry k (toBE_length k) xs i hi 0 k (Nat.le_of_eq (Nat.zero_add k))

end SpecVerif
