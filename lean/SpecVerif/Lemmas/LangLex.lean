/-
How the state machine of Lang/Lexer.lean moves over lexemes and separators (white space, comments).
The token of a word, number or '.' is emitted only by the next character, if that is a `boundary` of
the lexeme (`step_pend`), or by the end of the input (`finish_pend`); a separator leads from the start
state back to it (`run_sep`).
-/
import SpecVerif.Lang.Lexer
namespace SpecVerif.Lang

def run (s : LS) (cs : List Char) : LS := cs.foldl step s

theorem run_append (s : LS) (a b : List Char) : run s (a ++ b) = run (run s a) b := by
  simp [run, List.foldl_append]

theorem run_cons (s : LS) (c : Char) (cs : List Char) : run s (c :: cs) = run (step s c) cs := rfl

theorem run_nil (s : LS) : run s [] = s := rfl

theorem lexChars_eq_run (cs : List Char) : lexChars cs = finish (run ⟨.start, []⟩ cs) := rfl

/-- a state that absorbs every character of `cs` into its accumulator -/
theorem run_acc (f : List Char → LS) (cs : List Char)
    (h : ∀ c ∈ cs, ∀ acc, step (f acc) c = f (c :: acc)) (acc : List Char) :
    run (f acc) cs = f (cs.reverse ++ acc) := by
  induction cs generalizing acc with
  | nil => rfl
  | cons c cs ih =>
    rw [run_cons, h c (by simp), ih (fun d hd => h d (by simp [hd]))]
    simp

/-- NUL-free ASCII -/
def okc (c : Char) : Bool := !(c.toNat = 0 || 128 ≤ c.toNat)

theorem step_ok {c : Char} (h : okc c = true) (s : LS) :
    step s c = (match s.mode with
      | .bad => s
      | .start => startChar s.out c
      | .word acc => if isIdChar c then ⟨.word (c :: acc), s.out⟩ else startChar (wordTok acc :: s.out) c
      | .num acc =>
        if isDigit c then ⟨.num (c :: acc), s.out⟩
        else if isLetter c || c == '.' then ⟨.bad, s.out⟩
        else match intTok acc with
          | some t => startChar (t :: s.out) c
          | none => ⟨.bad, s.out⟩
      | .str acc =>
        if c == '"' then ⟨.start, .str (String.ofList acc.reverse) :: s.out⟩
        else if isStrChar c then ⟨.str (c :: acc), s.out⟩
        else ⟨.bad, s.out⟩
      | .slash =>
        if c == '/' then ⟨.line, s.out⟩
        else if c == '*' then ⟨.block, s.out⟩
        else startChar (.p '/' :: s.out) c
      | .dot => if isDigit c then ⟨.bad, s.out⟩ else startChar (.p '.' :: s.out) c
      | .line => if c == '\n' then ⟨.start, s.out⟩ else s
      | .block => if c == '*' then ⟨.blockStar, s.out⟩ else s
      | .blockStar =>
        if c == '/' then ⟨.start, s.out⟩ else if c == '*' then s else ⟨.block, s.out⟩) := by
  have hn : ¬ ((decide (c.toNat = 0) || decide (128 ≤ c.toNat)) = true) := by
    unfold okc at h
    simpa using h
  exact if_neg hn

theorem step_start {c : Char} (h : okc c = true) (out : List Tok) : step ⟨.start, out⟩ c = startChar out c := by
  rw [step_ok h]

/-! ### character classes, as ranges of code points -/

theorem char_eq_of_toNat {c d : Char} (h : c.toNat = d.toNat) : c = d :=
  Char.ext (UInt32.toNat_inj.mp h)

theorem isLetter_iff (c : Char) : isLetter c = true ↔
    (97 ≤ c.toNat ∧ c.toNat ≤ 122) ∨ (65 ≤ c.toNat ∧ c.toNat ≤ 90) ∨ c.toNat = 95 := by
  simp [isLetter, ← Char.toNat_inj, or_assoc]

theorem isDigit_iff (c : Char) : isDigit c = true ↔ 48 ≤ c.toNat ∧ c.toNat ≤ 57 := by
  simp [isDigit]

theorem isWs_iff (c : Char) : isWs c = true ↔ c.toNat = 32 ∨ c.toNat = 9 ∨ c.toNat = 10 ∨ c.toNat = 13 := by
  simp [isWs, ← Char.toNat_inj, or_assoc]

theorem okc_iff (c : Char) : okc c = true ↔ 0 < c.toNat ∧ c.toNat < 128 := by
  simp [okc]
  omega

theorem okc_letter {c : Char} (h : isLetter c = true) : okc c = true := by
  rw [isLetter_iff] at h
  rw [okc_iff]
  omega

theorem okc_digit {c : Char} (h : isDigit c = true) : okc c = true := by
  rw [isDigit_iff] at h
  rw [okc_iff]
  omega

theorem okc_idChar {c : Char} (h : isIdChar c = true) : okc c = true :=
  (Bool.or_eq_true _ _ |>.mp h).elim okc_letter okc_digit

theorem okc_ws {c : Char} (h : isWs c = true) : okc c = true := by
  rw [isWs_iff] at h
  rw [okc_iff]
  omega

theorem okc_punct {c : Char} (h : isPunct c = true) : okc c = true := by
  simp [isPunct] at h
  rw [okc_iff]
  omega

theorem okc_strChar {c : Char} (h : isStrChar c = true) : okc c = true := by
  simp [isStrChar] at h
  rw [okc_iff]
  omega

theorem not_ws_of_letter {c : Char} (h : isLetter c = true) : isWs c = false := by
  rw [isLetter_iff] at h
  rw [Bool.eq_false_iff, Ne, isWs_iff]
  omega

theorem not_ws_of_digit {c : Char} (h : isDigit c = true) : isWs c = false := by
  rw [isDigit_iff] at h
  rw [Bool.eq_false_iff, Ne, isWs_iff]
  omega

theorem not_letter_of_digit {c : Char} (h : isDigit c = true) : isLetter c = false := by
  rw [isDigit_iff] at h
  rw [Bool.eq_false_iff, Ne, isLetter_iff]
  omega

theorem not_ws_of_punct {c : Char} (h : isPunct c = true) : isWs c = false := by
  simp [isPunct] at h
  rw [Bool.eq_false_iff, Ne, isWs_iff]
  omega

theorem strChar_not_quote {c : Char} (h : isStrChar c = true) : (c == '"') = false := by
  simp [isStrChar] at h
  simp [h]

/-! ### the start state -/

theorem startChar_ws {c : Char} (h : isWs c = true) (out : List Tok) : startChar out c = ⟨.start, out⟩ := by
  simp [startChar, h]

theorem startChar_letter {c : Char} (h : isLetter c = true) (out : List Tok) :
    startChar out c = ⟨.word [c], out⟩ := by
  simp [startChar, h, not_ws_of_letter h]

theorem startChar_digit {c : Char} (h : isDigit c = true) (out : List Tok) :
    startChar out c = ⟨.num [c], out⟩ := by
  simp [startChar, h, not_ws_of_digit h, not_letter_of_digit h]

theorem startChar_quote (out : List Tok) : startChar out '"' = ⟨.str [], out⟩ := rfl

theorem startChar_slash (out : List Tok) : startChar out '/' = ⟨.slash, out⟩ := rfl

theorem startChar_dot (out : List Tok) : startChar out '.' = ⟨.dot, out⟩ := rfl

theorem startChar_punct {c : Char} (h : isPunct c = true) (out : List Tok) :
    startChar out c = ⟨.start, .p c :: out⟩ := by
  have hp := h
  simp only [isPunct, Bool.and_eq_true, Bool.not_eq_true', bne_iff_ne, ne_eq] at h
  simp [startChar, not_ws_of_punct hp, h, hp]

/-! ### lexemes -/

/-- the character sequence of one token -/
inductive Lexeme
  | word (c : Char) (cs : List Char)
  | num (ds : List Char) (t : Tok)
  | str (cs : List Char)
  | punct (c : Char)
  | dot

def Lexeme.chars : Lexeme → List Char
  | .word c cs => c :: cs
  | .num ds _ => ds
  | .str cs => '"' :: (cs ++ ['"'])
  | .punct c => [c]
  | .dot => ['.']

def Lexeme.OK : Lexeme → Prop
  | .word c cs => isLetter c = true ∧ ∀ d ∈ cs, isIdChar d = true
  | .num ds t => ds ≠ [] ∧ (∀ d ∈ ds, isDigit d = true) ∧ intTok ds.reverse = some t
  | .str cs => ∀ d ∈ cs, isStrChar d = true
  | .punct c => isPunct c = true
  | .dot => True

def Lexeme.tok : Lexeme → Tok
  | .word c cs => wordTok (c :: cs).reverse
  | .num _ t => t
  | .str cs => .str (String.ofList cs)
  | .punct c => .p c
  | .dot => .p '.'

/-- the state right after the characters of a lexeme, read from the start state -/
def pend (out : List Tok) : Lexeme → LS
  | .word c cs => ⟨.word (c :: cs).reverse, out⟩
  | .num ds _ => ⟨.num ds.reverse, out⟩
  | .str cs => ⟨.start, .str (String.ofList cs) :: out⟩
  | .punct c => ⟨.start, .p c :: out⟩
  | .dot => ⟨.dot, out⟩

theorem run_lexeme (l : Lexeme) (hl : l.OK) (out : List Tok) : run ⟨.start, out⟩ l.chars = pend out l := by
  cases l with
  | word c cs =>
    rw [Lexeme.chars, run_cons, step_start (okc_letter hl.1), startChar_letter hl.1,
      run_acc (fun acc => ⟨.word acc, out⟩) cs fun d hd acc => by
        simp [step_ok (okc_idChar (hl.2 d hd)), hl.2 d hd]]
    simp [pend]
  | num ds t =>
    obtain ⟨hne, hds, _⟩ := hl
    cases ds with
    | nil => exact absurd rfl hne
    | cons d ds =>
      have hd := hds d (by simp)
      rw [Lexeme.chars, run_cons, step_start (okc_digit hd), startChar_digit hd,
        run_acc (fun acc => ⟨.num acc, out⟩) ds fun x hx acc => by
          simp [step_ok (okc_digit (hds x (by simp [hx]))), hds x (by simp [hx])]]
      simp [pend]
  | str cs =>
    rw [Lexeme.chars, run_cons, step_start (by decide), startChar_quote, run_append,
      run_acc (fun acc => ⟨.str acc, out⟩) cs fun d hd acc => by
        simp [step_ok (okc_strChar (hl d hd)), hl d hd, strChar_not_quote (hl d hd)]]
    simp [run, step_ok (c := '"') (by decide), pend]
  | punct c => simp [Lexeme.chars, run, step_start (okc_punct hl), startChar_punct hl, pend]
  | dot => simp [Lexeme.chars, run, step_start (c := '.') (by decide), startChar_dot, pend]

/-- the characters after which a pending lexeme is complete -/
def boundary : Lexeme → Char → Prop
  | .word _ _, c => isIdChar c = false
  | .num _ _, c => isDigit c = false ∧ isLetter c = false ∧ c ≠ '.'
  | .dot, c => isDigit c = false
  | _, _ => True

theorem step_pend (l : Lexeme) (hl : l.OK) (out : List Tok) (c : Char) (hc : okc c = true)
    (hb : boundary l c) : step (pend out l) c = step ⟨.start, l.tok :: out⟩ c := by
  rw [step_ok hc, step_ok hc]
  cases l with
  | word a cs => simp [pend, show isIdChar c = false from hb, Lexeme.tok]
  | num ds t => simp [pend, hb.1, hb.2.1, hb.2.2, hl.2.2, Lexeme.tok]
  | dot => simp [pend, show isDigit c = false from hb, Lexeme.tok]
  | _ => rfl

theorem finish_pend (l : Lexeme) (hl : l.OK) (out : List Tok) :
    finish (pend out l) = some (l.tok :: out).reverse := by
  cases l with
  | num ds t => simp [pend, finish, hl.2.2, Lexeme.tok]
  | _ => rfl

/-! ### separators -/

inductive SepElem
  | ws (c : Char)
  | line (body : List Char)       -- //body newline
  | block (body : List Char)      -- /*body*/

def SepElem.chars : SepElem → List Char
  | .ws c => [c]
  | .line b => '/' :: '/' :: (b ++ ['\n'])
  | .block b => '/' :: '*' :: (b ++ ['*', '/'])

/-- the body of a block comment does not contain the closing sequence (`star`: the previous
character was '*') -/
def okBlock : Bool → List Char → Bool
  | _, [] => true
  | star, c :: cs => if star && c == '/' then false else okBlock (c == '*') cs

def SepElem.OK : SepElem → Prop
  | .ws c => isWs c = true
  | .line b => ∀ d ∈ b, okc d = true ∧ d ≠ '\n'
  | .block b => (∀ d ∈ b, okc d = true) ∧ okBlock false b = true

/-- inside a block comment the state only records whether the last character was '*' -/
theorem step_block (star : Bool) {c : Char} (hc : okc c = true) (h : ¬ (star && c == '/') = true) (out : List Tok) :
    step ⟨if star then .blockStar else .block, out⟩ c = ⟨if c == '*' then .blockStar else .block, out⟩ := by
  rw [step_ok hc]
  cases star
  · cases c == '*' <;> rfl
  · have : (c == '/') = false := by simpa using h
    cases c == '*' <;> simp [this]

theorem run_block (star : Bool) (b : List Char) (out : List Tok) (h : ∀ d ∈ b, okc d = true)
    (hb : okBlock star b = true) :
    run ⟨if star then .blockStar else .block, out⟩ (b ++ ['*', '/']) = ⟨.start, out⟩ := by
  induction b generalizing star with
  | nil => cases star <;> rfl
  | cons c cs ih =>
    rw [okBlock] at hb
    split at hb
    · cases hb
    · rw [List.cons_append, run_cons, step_block star (h c (by simp)) ‹_›]
      exact ih (c == '*') (fun d hd => h d (by simp [hd])) hb

theorem run_sepElem (e : SepElem) (he : e.OK) (out : List Tok) : run ⟨.start, out⟩ e.chars = ⟨.start, out⟩ := by
  cases e with
  | ws c => simp [SepElem.chars, run, step_start (okc_ws he), startChar_ws he]
  | line b =>
    change run ⟨.line, out⟩ (b ++ ['\n']) = _
    rw [run_append, run_acc (fun _ => ⟨.line, out⟩) b (fun d hd _ => by simp [step_ok (he d hd).1, (he d hd).2]) []]
    rfl
  | block b => exact run_block false b out he.1 he.2

def sepChars (sep : List SepElem) : List Char := (sep.map SepElem.chars).flatten

theorem run_sep (sep : List SepElem) (hs : ∀ e ∈ sep, e.OK) (out : List Tok) :
    run ⟨.start, out⟩ (sepChars sep) = ⟨.start, out⟩ := by
  induction sep with
  | nil => rfl
  | cons e es ih =>
    simp only [sepChars, List.map_cons, List.flatten_cons, run_append]
    rw [run_sepElem e (hs e (by simp))]
    exact ih (fun x hx => hs x (by simp [hx]))

/-! ### from one lexeme to the next -/

theorem run_pend (l : Lexeme) (hl : l.OK) (out : List Tok) {text : List Char}
    (h : ∃ c cs, text = c :: cs ∧ okc c = true ∧ boundary l c) :
    run (pend out l) text = run ⟨.start, l.tok :: out⟩ text := by
  obtain ⟨c, cs, rfl, hc, hb⟩ := h
  rw [run_cons, step_pend l hl out c hc hb, ← run_cons]

/-- a separator starts with white space or '/', after which every lexeme is complete -/
theorem sep_head (s : SepElem) (hs : s.OK) (ss : List SepElem) (l : Lexeme) :
    ∃ c cs, sepChars (s :: ss) = c :: cs ∧ okc c = true ∧ boundary l c := by
  have hslash : boundary l '/' := by cases l <;> simp [boundary] <;> decide
  cases s with
  | ws c =>
    have hs' := (isWs_iff c).mp hs
    have h1 : isLetter c = false := by rw [Bool.eq_false_iff, Ne, isLetter_iff]; omega
    have h2 : isDigit c = false := by rw [Bool.eq_false_iff, Ne, isDigit_iff]; omega
    have h3 : c ≠ '.' := fun h => by subst h; simp at hs'
    exact ⟨c, sepChars ss, rfl, okc_ws hs, by cases l <;> simp [boundary, isIdChar, h1, h2, h3]⟩
  | line b => exact ⟨'/', _, rfl, by decide, hslash⟩
  | block b => exact ⟨'/', _, rfl, by decide, hslash⟩

theorem lexeme_head (l : Lexeme) (hl : l.OK) : ∃ c cs, l.chars = c :: cs ∧ okc c = true := by
  cases l with
  | word c cs => exact ⟨c, cs, rfl, okc_letter hl.1⟩
  | num ds t =>
    obtain ⟨hne, hds, _⟩ := hl
    cases ds with
    | nil => exact absurd rfl hne
    | cons d ds => exact ⟨d, ds, rfl, okc_digit (hds d (by simp))⟩
  | str cs => exact ⟨'"', _, rfl, by decide⟩
  | punct c => exact ⟨c, [], rfl, okc_punct hl⟩
  | dot => exact ⟨'.', [], rfl, by decide⟩

theorem run_pend_next (l l' : Lexeme) (hl : l.OK) (hl' : l'.OK) (sep : List SepElem) (hs : ∀ e ∈ sep, e.OK)
    (hb : sep ≠ [] ∨ ∀ c cs, l'.chars = c :: cs → boundary l c) (out : List Tok) :
    run (pend out l) (sepChars sep ++ l'.chars) = pend (l.tok :: out) l' := by
  have h : ∃ c cs, sepChars sep ++ l'.chars = c :: cs ∧ okc c = true ∧ boundary l c := by
    cases sep with
    | nil =>
      obtain ⟨c, cs, e, hc⟩ := lexeme_head l' hl'
      exact ⟨c, cs, e, hc, (hb.resolve_left (· rfl)) c cs e⟩
    | cons s ss =>
      obtain ⟨c, cs, e, h⟩ := sep_head s (hs s (by simp)) ss l
      exact ⟨c, cs ++ l'.chars, by rw [e]; rfl, h⟩
  rw [run_pend l hl out h, run_append, run_sep sep hs, run_lexeme l' hl']

theorem run_pend_sep (l : Lexeme) (hl : l.OK) (sep : List SepElem) (hs : ∀ e ∈ sep, e.OK) (out : List Tok) :
    finish (run (pend out l) (sepChars sep)) = some (l.tok :: out).reverse := by
  cases sep with
  | nil => exact finish_pend l hl out
  | cons s ss =>
    rw [run_pend l hl out (sep_head s (hs s (by simp)) ss l), run_sep (s :: ss) hs]
    rfl

end SpecVerif.Lang
