/-
The recursive parser accepts every `Valid` encoding, behind any prefix, with exactly its own size: a scalar
through its round trip (Props/C10.lean), a container through the value it opens to and `childLoop_all`.  With
`parse_probe_agree` the probe then delimits it.
-/
import SpecVerif.Lemmas.Valid
import SpecVerif.Lemmas.Delim
import SpecVerif.Lemmas.Agree
import SpecVerif.Props.C10
namespace SpecVerif
open Pinned

section
variable (F : FloatOps)

/-- `parse_branch` for a code that ParseValue hands to the typed decoder `d` -/
theorem parse_of_decoder {α : Type} (d : Bytes → Res (α × Nat)) (t : UInt8) (q body : Bytes) (v : α) (f : Nat)
    (hb : branch F t = fun _ => sizeOf d)
    (hd : d (q ++ (body ++ [t])) = .ok (v, (body ++ [t]).length)) :
    parseValue F (f + 1) (q ++ (body ++ [t])) = .ok (body ++ [t]).length :=
  parse_branch F t q body f (by rw [hb]; simp only [sizeOf, hd]; rfl)

theorem length_le_flatten {e : Bytes} {es : List Bytes} (he : e ∈ es) : e.length ≤ es.flatten.length := by
  obtain ⟨l, r, rfl⟩ := List.append_of_mem he
  simp only [List.flatten_append, List.flatten_cons, List.length_append]; omega

/-- a container is at least three bytes longer than its data: two size varints and the type byte -/
theorem trailer_length_ge {data table : Bytes} {t : UInt8} :
    data.length + 3 ≤ (data ++ table ++ putRevU32 data.length ++ putRevU32 table.length ++ [t]).length := by
  have h1 := putRevU32_pos data.length
  have h2 := putRevU32_pos table.length
  simp only [List.length_append, List.length_singleton]; omega

/-- C01 (parser).  Fuel: a container spends two units, on ParseValue and on ParseList / ParseMessage, and each
child is at least three bytes shorter. -/
theorem valid_parse (L : C10.FloatLaws F) (b : Bytes) (hv : Valid b) :
    ∀ (q : Bytes) (f : Nat), 2 * b.length ≤ f → parseValue F (f + 1) (q ++ b) = .ok b.length := by
  induction hv with
  | list es h hsz ih =>
    intro q f hf
    have hlen : es.flatten.length + 3 ≤ (encList es).length := trailer_length_ge
    obtain ⟨f2, rfl⟩ : ∃ f2, f = f2 + 2 := ⟨f - 2, by omega⟩
    refine parse_branch F (if isBigList (endOffsets 0 es) then tBigList else tList) q _ _ ?_
    show branch F _ _ (q ++ encList es) = .ok (encList es).length
    rw [show branch F _ = parseList F by split <;> rfl, parseList_eq, parseContainer,
      container_exact q (encList es) _ (list_decode q es hsz)]
    refine childLoop_all _ 0 fun i _ hi => ?_
    replace hi : i < es.length := by rw [Nat.zero_add] at hi; exact listV_len es ▸ hi
    have hel := length_le_flatten (List.getElem_mem hi)
    exact ⟨_, getBytes_enc es hsz i hi, fun _ => ⟨_, ih _ (List.getElem_mem hi) [] f2 (by omega)⟩⟩
  | msg fs h wf ih =>
    intro q f hf
    have hlen : ((fs.map (·.2)).flatten).length + 3 ≤ (encMsg fs).length := trailer_length_ge
    obtain ⟨f2, rfl⟩ : ∃ f2, f = f2 + 2 := ⟨f - 2, by omega⟩
    refine parse_branch F (if isBigMessage (sortedEntries (msgPairs fs)) then tBigMessage else tMessage) q _ _ ?_
    show branch F _ _ (q ++ encMsg fs) = .ok (encMsg fs).length
    rw [show branch F _ = parseMessage F by split <;> rfl, parseMessage_eq, parseContainer,
      container_exact q (encMsg fs) _ (msg_decode q fs wf)]
    refine childLoop_all _ 0 fun i _ hi => ?_
    replace hi : i < fs.length := by rw [Nat.zero_add] at hi; exact msgV_fields fs ▸ hi
    obtain ⟨l, v, r, hfs, hraw⟩ := msgV_fieldAtRaw fs wf i (by rw [sortedEntries_msgPairs_length]; exact hi)
    have hmem : (_, v) ∈ fs := hfs ▸ List.mem_append_right l List.mem_cons_self
    have hel : v.length ≤ _ := length_le_flatten (List.mem_map_of_mem (f := (·.2)) hmem)
    exact ⟨_, hraw, fun _ => ⟨_, ih _ hmem ((l.map (·.2)).flatten) f2 (by show 2 * v.length ≤ f2; omega)⟩⟩
  | bool v =>
    intro q f _
    cases v <;> exact parse_branch F _ q [] f (by simp [branch])
  | byte v => exact fun q f _ => parse_of_decoder F decodeByte tByte q [v] v f rfl (C10.byte_roundtrip q v)
  | i16 v h => exact fun q f _ => parse_of_decoder F decodeInt16 tInt16 q _ v f rfl (C10.int_roundtrip .w16 q v h)
  | i32 v h => exact fun q f _ => parse_of_decoder F decodeInt32 tInt32 q _ v f rfl (C10.int_roundtrip .w32 q v h)
  | i64 v h => exact fun q f _ => parse_of_decoder F decodeInt64 tInt64 q _ v f rfl (C10.int_roundtrip .w64 q v h)
  | u16 v h => exact fun q f _ => parse_of_decoder F decodeUint16 tUint16 q _ v f rfl (C10.uint_roundtrip .w16 q v h)
  | u32 v h => exact fun q f _ => parse_of_decoder F decodeUint32 tUint32 q _ v f rfl (C10.uint_roundtrip .w32 q v h)
  | u64 v h => exact fun q f _ => parse_of_decoder F decodeUint64 tUint64 q _ v f rfl (C10.uint_roundtrip .w64 q v h)
  | f32 x h => exact fun q f _ => parse_of_decoder F (decodeFloat32 F) tFloat32 q _ _ f rfl (C10.float32_decodes F L q x h)
  | f64 x h => exact fun q f _ => parse_of_decoder F (decodeFloat64 F) tFloat64 q _ x f rfl (C10.float64_roundtrip F q x h)
  | bin64 v h => exact fun q f _ => parse_of_decoder F decodeBin64 tBin64 q _ v f rfl (C10.bin64_roundtrip q v h)
  | bin128 v h => exact fun q f _ => parse_of_decoder F decodeBin128 tBin128 q _ v f rfl (C10.bin128_roundtrip q v h)
  | bin256 v h => exact fun q f _ => parse_of_decoder F decodeBin256 tBin256 q _ v f rfl (C10.bin256_roundtrip q v h)
  | bytes v h => exact fun q f _ => parse_of_decoder F decodeBytes tBytes q _ v f rfl (C10.bytes_roundtrip q v h)
  | str v h => exact fun q f _ => parse_of_decoder F decodeString tString q _ v f rfl (C10.string_roundtrip q v h)

end

/-- the parser accepts it with its own size, and the probe reports the size the parser accepts -/
theorem valid_delim (b : Bytes) (h : Valid b) : Delim b := by
  have hp := fun q => parse_probe_agree IEEE.ieee _ _ _ (valid_parse IEEE.ieee C10.ieee_laws b h q _ (Nat.le_refl _))
  exact ⟨by simpa using (hp []).1, fun q => (hp q).2⟩

end SpecVerif
