/-
A list laid out by `encList` is read back element by element.  Offsets are characterised at a split point
`es = l ++ e :: r` (element `l.length` starts at `|l.flatten|`) rather than by index arithmetic; the accessors
of format.ListTable and types.List are evaluated on `listV es`, the value `encList es` opens to.
-/
import SpecVerif.Lemmas.Container
namespace SpecVerif
open Pinned

theorem exists_split {α : Type} (xs : List α) (j : Nat) (hj : j < xs.length) :
    ∃ l e r, xs = l ++ e :: r ∧ j = l.length :=
  ⟨xs.take j, xs[j], xs.drop (j + 1), by rw [List.getElem_cons_drop, List.take_append_drop], by simp; omega⟩

/-! ### the end offsets the encoder computes -/

@[simp] theorem endOffsets_length (acc : Nat) (es : List Bytes) : (endOffsets acc es).length = es.length := by
  induction es generalizing acc with
  | nil => rfl
  | cons e es ih => simp [endOffsets, ih]

/-- `acc :: endOffsets acc es` are the running sums: behind the prefix `l` stands `acc + |l.flatten|` -/
theorem endOffsets_prefix (acc : Nat) (l r : List Bytes) :
    (acc :: endOffsets acc (l ++ r))[l.length]? = some (acc + l.flatten.length) := by
  induction l generalizing acc with
  | nil => simp
  | cons x l ih =>
    simp only [List.cons_append, endOffsets, List.length_cons, List.getElem?_cons_succ, List.flatten_cons,
      List.length_append]
    rw [ih]; congr 1; omega

theorem endOffsets_split (acc : Nat) (l : List Bytes) (e : Bytes) (r : List Bytes) :
    (endOffsets acc (l ++ e :: r))[l.length]? = some (acc + l.flatten.length + e.length) := by
  simpa [Nat.add_assoc] using endOffsets_prefix acc (l ++ [e]) r

theorem endOffsets_le (acc : Nat) (es : List Bytes) : ∀ o ∈ endOffsets acc es, o ≤ acc + es.flatten.length := by
  induction es generalizing acc with
  | nil => simp [endOffsets]
  | cons e es ih =>
    intro o ho
    simp only [endOffsets, List.mem_cons] at ho
    rw [List.flatten_cons, List.length_append]
    rcases ho with h | h
    · omega
    · have := ih (acc + e.length) o h
      omega

theorem endOffsets_getLast (acc : Nat) (es : List Bytes) (h : es ≠ []) :
    (endOffsets acc es).getLast? = some (acc + es.flatten.length) := by
  induction es generalizing acc with
  | nil => exact absurd rfl h
  | cons e es ih =>
    rw [List.flatten_cons, List.length_append]
    cases es with
    | nil => simp [endOffsets]
    | cons e2 es =>
      have := ih (acc + e.length) (by simp)
      simp only [endOffsets] at this ⊢
      rw [List.getLast?_cons_cons, this]
      congr 1; omega

theorem small_list_bound (es : List Bytes) (h : isBigList (endOffsets 0 es) = false) :
    ∀ o ∈ endOffsets 0 es, o < 256 ^ 2 := by
  intro o ho
  have hne : es ≠ [] := by intro h0; subst h0; simp [endOffsets] at ho
  have hl := endOffsets_getLast 0 es hne
  have hle := endOffsets_le 0 es o ho
  unfold isBigList at h
  rw [hl] at h
  simp only [Nat.zero_add, endOffsets_length, Bool.or_eq_false_iff, decide_eq_false_iff_not,
    Nat.not_lt] at h
  omega

theorem encListTable_length (big : Bool) (offs : List Nat) :
    (encListTable big offs).length = offs.length * (if big then listElemBig else listElemSmall) :=
  length_flatMap_width (fun _ => toBE_length _ _) offs

/-! ### the accessors of format.ListTable on a table that holds the end offsets `offs` -/

section
variable (T : Table) (offs : List Nat) (hT : T.table = encListTable T.big offs)
include hT

theorem Table.listLen_enc : T.listLen = offs.length := by
  rw [Table.listLen, hT, encListTable_length]
  exact Nat.mul_div_cancel _ (by split <;> decide)

/-- `Offset(i)`: the previous end offset (0 for the first element) and the `i`-th -/
theorem Table.listOffset_enc (hb : ∀ o ∈ offs, o < 256 ^ (if T.big then listElemBig else listElemSmall))
    (i : Nat) (hi : i < offs.length) :
    T.listOffset i = .ok (some ((0 :: offs)[i]'(by simp; omega), offs[i])) := by
  have hn : ¬ i ≥ T.table.length / (if T.big then listElemBig else listElemSmall) := by
    have := T.listLen_enc offs hT; rw [Table.listLen] at this; omega
  have rd := fun j hj => readBE_flatMap offs j hj hb
  rw [← encListTable, ← hT] at rd
  simp only [Table.listOffset, hn, ↓reduceIte, rd i hi]
  cases i with
  | zero => rfl
  | succ j =>
    rw [if_pos (Nat.succ_pos j), Nat.succ_mul, Nat.add_sub_cancel, rd j (by omega)]
    rfl
end

/-! ### the opened list -/

/-- what `encList es` opens to -/
def listV (es : List Bytes) : ListV :=
  ⟨⟨encListTable (isBigList (endOffsets 0 es)) (endOffsets 0 es), es.flatten.length,
    isBigList (endOffsets 0 es)⟩, encList es⟩

theorem list_decode (p : Bytes) (es : List Bytes) (hsz : es.flatten.length + 4 * es.length < 2 ^ 32) :
    decodeListTable (p ++ encList es) = .ok ((listV es).table, (encList es).length) := by
  have htl := encListTable_length (isBigList (endOffsets 0 es)) (endOffsets 0 es)
  rw [endOffsets_length] at htl
  refine decodeTable_enc tList tBigList (by decide) p es.length htl (by omega) ?_
  rw [htl]; split <;> simp only [listElemBig, listElemSmall] <;> omega

theorem openListErr_enc (p : Bytes) (es : List Bytes) (hsz : es.flatten.length + 4 * es.length < 2 ^ 32) :
    openListErr (p ++ encList es) = .ok (listV es) := by
  simp only [openListErr, list_decode p es hsz, suffix_append]
  rfl

theorem listV_len (es : List Bytes) : (listV es).len = es.length :=
  ((listV es).table.listLen_enc _ rfl).trans (endOffsets_length 0 es)

theorem list_bounds (es : List Bytes) (hsz : es.flatten.length < 2 ^ 32) :
    ∀ o ∈ endOffsets 0 es, o < 256 ^ (if (listV es).table.big then listElemBig else listElemSmall) := by
  intro o ho
  cases hbig : (listV es).table.big with
  | true =>
    have := endOffsets_le 0 _ o ho
    simp only [listElemBig, ↓reduceIte]; omega
  | false => exact small_list_bound _ hbig o ho

theorem getBytes_split (l : List Bytes) (e : Bytes) (r : List Bytes)
    (hsz : (l ++ e :: r).flatten.length + 4 * (l ++ e :: r).length < 2 ^ 32) :
    (listV (l ++ e :: r)).getBytes l.length = .ok e := by
  have hi : l.length < (endOffsets 0 (l ++ e :: r)).length := by simp
  have ho := (listV (l ++ e :: r)).table.listOffset_enc _ rfl (list_bounds _ (by omega)) l.length hi
  have h1 := endOffsets_split 0 l e r
  have h2 := endOffsets_prefix 0 l (e :: r)
  rw [List.getElem?_eq_getElem hi, Option.some.injEq, Nat.zero_add] at h1
  rw [List.getElem?_eq_getElem (by simp; omega), Option.some.injEq, Nat.zero_add] at h2
  rw [h1, h2] at ho
  have hp : l.flatten ++ e <+: (listV (l ++ e :: r)).bytes := by simp [listV, encList]
  have hd : (listV (l ++ e :: r)).table.data = l.flatten.length + e.length + r.flatten.length := by
    simp [listV, Nat.add_assoc]
  rw [ListV.getBytes, ho]
  simp only
  rw [if_neg (by omega), slice?_mid _ _ _ hp]

theorem getBytes_enc (es : List Bytes) (hsz : es.flatten.length + 4 * es.length < 2 ^ 32) (j : Nat)
    (hj : j < es.length) : (listV es).getBytes j = .ok es[j] := by
  obtain ⟨l, e, r, rfl, rfl⟩ := exists_split es j hj
  simpa using getBytes_split l e r hsz

end SpecVerif
