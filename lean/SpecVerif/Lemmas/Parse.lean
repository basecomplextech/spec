/-
The recursive parser.  `branch_cases` is the one place where the dispatch of ParseValue on the type byte is
gone through: a value continues as a typed decoder (a `GoodDec`, of which only the size is kept), as a
container, or is rejected.  ParseList and ParseMessage are one function, `parseContainer`.  From these: the
parser never panics, terminates within its fuel and reports a size within the input (C02).
-/
import SpecVerif.Lemmas.Access
namespace SpecVerif
open Pinned

/-- no panic, and the reported size (with or without an error) is within `len` -/
def SafeP (len : Nat) : Res Nat → Prop
  | .ok n => n ≤ len
  | .err _ n => n ≤ len
  | .panic => False

@[simp] theorem SafeP_ok (len n : Nat) : SafeP len (.ok n) = (n ≤ len) := rfl
@[simp] theorem SafeP_err (len : Nat) (e : Err) (n : Nat) : SafeP len (.err e n) = (n ≤ len) := rfl
@[simp] theorem SafeP_panic (len : Nat) : SafeP len .panic = False := rfl

theorem SafeP_mono (a b : Nat) (h : a ≤ b) (r : Res Nat) (hr : SafeP a r) : SafeP b r := by
  cases r <;> simp_all <;> omega

theorem SafeP.ne_panic {len : Nat} {r : Res Nat} (h : SafeP len r) : r ≠ .panic :=
  fun h0 => by rw [h0] at h; exact h

theorem SafeP_guard (len : Nat) (r : Res Nat) (h : SafeP len r) :
    SafeP len (guardSize len r) := by
  unfold guardSize
  cases r with
  | ok n => simp at h; simp; split <;> simp <;> omega
  | err e n => exact h
  | panic => simp at h

theorem guardSize_ok {len : Nat} {r : Res Nat} {n : Nat} : guardSize len r = .ok n ↔ r = .ok n ∧ n ≤ len := by
  unfold guardSize
  cases r with
  | ok m => by_cases h : m > len <;> simp [h] <;> omega
  | err e k => simp
  | panic => simp

def sizeOf {α : Type} (d : Bytes → Res (α × Nat)) (b : Bytes) : Res Nat := (d b).bind fun x => .ok x.2

theorem sizeOf_ok {α : Type} {d : Bytes → Res (α × Nat)} {b : Bytes} {n : Nat} :
    sizeOf d b = .ok n ↔ ∃ v, d b = .ok (v, n) := by
  unfold sizeOf
  cases d b with
  | ok a => simp [Res.bind, Prod.ext_iff]
  | err e k => simp [Res.bind]
  | panic => simp [Res.bind]

section
variable {α : Type} {d : Bytes → Res (α × Nat)} (hd : GoodDec d)
include hd

theorem sizeOf_safe (b : Bytes) : SafeP b.length (sizeOf d b) := by
  have := hd.safe b
  unfold sizeOf
  cases hr : d b <;> rw [hr] at this <;> exact this

theorem sizeOf_local (q p s : Bytes) (hne : s ≠ []) (h : sizeOf d (q ++ s) = .ok s.length) :
    sizeOf d (p ++ s) = .ok s.length := by
  obtain ⟨v, hv⟩ := sizeOf_ok.mp h
  exact sizeOf_ok.mpr ⟨v, hd.loc q p s v hne hv⟩

theorem sizeOf_probe (x : Bytes) (t : UInt8) (n : Nat) (h : sizeOf d (x ++ [t]) = .ok n) :
    decodeTypeSize (x ++ [t]) = .ok (t, n) := by
  obtain ⟨v, hv⟩ := sizeOf_ok.mp h
  exact hd.probe x t v n hv
end

/-! ### containers -/

/-- the loop of ParseList and ParseMessage over the children; `size`: the size of the container -/
def childLoop (pv : Bytes → Res Nat) (get : Nat → Res Bytes) (size : Nat) : Nat → Nat → Res Nat
  | 0, _ => .ok size
  | k+1, i =>
    match get i with
    | .panic => .panic
    | .err e n => .err e n
    | .ok b1 =>
      if b1.length = 0 then childLoop pv get size k (i + 1) else
      match pv b1 with
      | .ok _ => childLoop pv get size k (i + 1)
      | .err e _ => .err e size
      | .panic => .panic

theorem parseListElems_eq (F : FloatOps) (fuel : Nat) (l : ListV) (size : Nat) (k i : Nat) :
    parseListElems F fuel l size k i = childLoop (parseValue F fuel) l.getBytes size k i := by
  induction k generalizing i with
  | zero => simp only [parseListElems, childLoop]
  | succ k ih =>
    simp only [parseListElems, childLoop, ih]
    rfl

theorem parseMsgFields_eq (F : FloatOps) (fuel : Nat) (m : MsgV) (size : Nat) (k i : Nat) :
    parseMsgFields F fuel m size k i = childLoop (parseValue F fuel) m.fieldAtRaw size k i := by
  induction k generalizing i with
  | zero => simp only [parseMsgFields, childLoop]
  | succ k ih =>
    simp only [parseMsgFields, childLoop, ih]
    rfl

/-- ParseList and ParseMessage: decode the table, cut the value off the buffer, run `loop` -/
def container (dec : Bytes → Res (Table × Nat)) (loop : Table → Bytes → Nat → Res Nat) (b : Bytes) : Res Nat :=
  match dec b with
  | .panic => .panic
  | .err e _ => .err e 0
  | .ok (t, size) =>
    match suffix b size with
    | .panic => .panic
    | .err e n => .err e n
    | .ok bytes => loop t bytes size

/-- ParseList and ParseMessage as functions of the fuel; `get t bytes`: a child of the value `bytes`
with table `t`, `len t`: the number of children -/
def parseContainer (F : FloatOps) (dec : Bytes → Res (Table × Nat)) (get : Table → Bytes → Nat → Res Bytes)
    (len : Table → Nat) : Nat → Bytes → Res Nat
  | 0, _ => .panic
  | f+1, b => container dec (fun t bytes size => childLoop (parseValue F f) (get t bytes) size (len t) 0) b

theorem parseList_eq (F : FloatOps) : parseList F =
    parseContainer F decodeListTable (fun t bytes => ListV.getBytes ⟨t, bytes⟩) Table.listLen := by
  funext f b
  cases f with
  | zero => simp only [parseList, parseContainer]
  | succ f =>
    simp only [parseList, parseContainer, container, parseListElems_eq]
    rfl

theorem parseMessage_eq (F : FloatOps) : parseMessage F =
    parseContainer F decodeMessageTable (fun t bytes => MsgV.fieldAtRaw ⟨t, bytes⟩) Table.msgLen := by
  funext f b
  cases f with
  | zero => simp only [parseMessage, parseContainer]
  | succ f =>
    simp only [parseMessage, parseContainer, container, parseMsgFields_eq]
    rfl

section loop
variable {pv : Bytes → Res Nat} {get : Nat → Res Bytes} {size : Nat}

theorem childLoop_size {n : Nat} : ∀ k i, childLoop pv get size k i = .ok n → n = size := by
  intro k
  induction k with
  | zero => intro i h; cases h; rfl
  | succ k ih =>
    intro i h
    simp only [childLoop] at h
    -- every branch of the loop body is an error or continues the loop
    repeat' split at h
    all_goals first | exact ih _ h | cases h

theorem childLoop_mono {pv' : Bytes → Res Nat} (hpv : ∀ b r, pv b = r → r ≠ .panic → pv' b = r) :
    ∀ k i r, childLoop pv get size k i = r → r ≠ .panic → childLoop pv' get size k i = r := by
  intro k
  induction k with
  | zero => intro i r h _; exact h
  | succ k ih =>
    intro i r h hne
    simp only [childLoop] at h ⊢
    cases hg : get i with
    | panic => rw [hg] at h; exact absurd h.symm hne
    | err e m => rw [hg] at h; exact h
    | ok b1 =>
      simp only [hg] at h ⊢
      split
      · rw [if_pos ‹_›] at h; exact ih _ _ h hne
      · rw [if_neg ‹_›] at h
        cases hp : pv b1 with
        | panic => rw [hp] at h; exact absurd h.symm hne
        | err e m => rw [hp] at h; rw [hpv b1 _ hp (by simp)]; exact h
        | ok m => rw [hp] at h; rw [hpv b1 _ hp (by simp)]; exact ih _ _ h hne

theorem childLoop_safe (L : Nat) (hs : size ≤ L) : ∀ k i,
    (∀ j, i ≤ j → j < i + k → ∃ v, get j = .ok v ∧ (v.length ≠ 0 → pv v ≠ .panic)) →
    SafeP L (childLoop pv get size k i) := by
  intro k
  induction k with
  | zero => intro i _; simpa [childLoop] using hs
  | succ k ih =>
    intro i hget
    obtain ⟨v, hv, hp⟩ := hget i (Nat.le_refl i) (by omega)
    have next := ih (i + 1) fun j h1 h2 => hget j (by omega) (by omega)
    simp only [childLoop, hv]
    split
    · exact next
    · cases hpv : pv v with
      | ok n => exact next
      | err e n => simpa using hs
      | panic => exact absurd hpv (hp ‹_›)

theorem childLoop_all : ∀ k i,
    (∀ j, i ≤ j → j < i + k → ∃ b, get j = .ok b ∧ (b.length ≠ 0 → ∃ n, pv b = .ok n)) →
    childLoop pv get size k i = .ok size := by
  intro k
  induction k with
  | zero => intro i _; rfl
  | succ k ih =>
    intro i hget
    obtain ⟨b, hb, hp⟩ := hget i (Nat.le_refl i) (by omega)
    have next := ih (i + 1) fun j h1 h2 => hget j (by omega) (by omega)
    simp only [childLoop, hb]
    split
    · exact next
    · obtain ⟨n, hn⟩ := hp ‹_›
      simp only [hn]; exact next
end loop

section container
variable {dec : Bytes → Res (Table × Nat)} {loop : Table → Bytes → Nat → Res Nat}

theorem container_exact (q b : Bytes) (T : Table) (h : dec (q ++ b) = .ok (T, b.length)) :
    container dec loop (q ++ b) = loop T b b.length := by
  simp only [container, h, suffix_append]

theorem container_size (hl : ∀ t bytes size n, loop t bytes size = .ok n → n = size) {b : Bytes} {n : Nat}
    (h : container dec loop b = .ok n) :
    ∃ t, dec b = .ok (t, n) ∧ n ≤ b.length ∧ loop t (lastN n b) n = .ok n := by
  unfold container at h
  split at h
  · cases h
  · cases h
  · rename_i t size hd
    by_cases hsz : size > b.length
    · simp [suffix, hsz] at h
    · simp only [suffix, hsz, ↓reduceIte] at h
      obtain rfl := hl _ _ _ _ h
      exact ⟨t, hd, by omega, h⟩

theorem container_local (hd : LocalDec dec) (hl : ∀ t bytes size n, loop t bytes size = .ok n → n = size)
    (q p s : Bytes) (hs : s ≠ []) (h : container dec loop (q ++ s) = .ok s.length) :
    container dec loop (p ++ s) = .ok s.length := by
  obtain ⟨t, ht, -, hloop⟩ := container_size hl h
  rw [lastN_append] at hloop
  simp only [container, hd q p s t hs ht, suffix_append, hloop]

theorem container_mono {loop' : Table → Bytes → Nat → Res Nat}
    (hl : ∀ t bytes size r, loop t bytes size = r → r ≠ .panic → loop' t bytes size = r)
    (b : Bytes) (r : Res Nat) (h : container dec loop b = r) (hne : r ≠ .panic) : container dec loop' b = r := by
  unfold container at h ⊢
  cases hd : dec b with
  | panic => rw [hd] at h; exact absurd h.symm hne
  | err e m => rw [hd] at h; exact h
  | ok a =>
    simp only [hd] at h ⊢
    cases hs : suffix b a.2 with
    | panic => rw [hs] at h; exact absurd h.symm hne
    | err e m => rw [hs] at h; exact h
    | ok bytes => simp only [hs] at h ⊢; exact hl _ _ _ _ h hne

theorem container_safe {b : Bytes} (hdec : SafeN b.length (dec b))
    (hloop : ∀ t n, dec b = .ok (t, n) → n ≤ b.length → SafeP b.length (loop t (lastN n b) n)) :
    SafeP b.length (container dec loop b) := by
  unfold container
  cases hd : dec b with
  | panic => rw [hd] at hdec; exact hdec
  | err e k => simp
  | ok a =>
    have hle : a.2 ≤ b.length := by rw [hd] at hdec; exact hdec
    simp only [suffix_ok b a.2 hle]
    exact hloop a.1 a.2 hd hle
end container

/-- what the parser needs of a kind of container; a child is, unless empty, at least three bytes shorter
than the value: the table's header -/
structure ContainerKind (dec : Bytes → Res (Table × Nat)) (get : Table → Bytes → Nat → Res Bytes)
    (len : Table → Nat) : Prop where
  good : GoodDec dec
  child : ∀ b t n, dec b = .ok (t, n) → ∀ j, j < len t →
    ∃ v, get t (lastN n b) j = .ok v ∧ (v.length = 0 ∨ v.length + 3 ≤ (lastN n b).length)

theorem listKind : ContainerKind decodeListTable (fun t bytes => ListV.getBytes ⟨t, bytes⟩) Table.listLen where
  good := decodeListTable_good
  child b t n hd j hj := by
    obtain ⟨v, hv, hlen⟩ := getBytes_ok ⟨t, lastN n b⟩ (room_of_decodeTable b t n hd).2 j hj
    exact ⟨v, hv, Or.inr hlen⟩

theorem messageKind :
    ContainerKind decodeMessageTable (fun t bytes => MsgV.fieldAtRaw ⟨t, bytes⟩) Table.msgLen where
  good := decodeMessageTable_good
  child b t n hd j _ := fieldAtRaw_ok ⟨t, lastN n b⟩ (room_of_decodeTable b t n hd).2 j

/-! ### the dispatch on the type byte -/

/-- how ParseValue continues after the type byte `t` -/
def branch (F : FloatOps) (t : UInt8) : Nat → Bytes → Res Nat :=
  if t = tTrue ∨ t = tFalse then fun _ b => .ok (decodeType b).2
  else if t = tByte then fun _ => sizeOf decodeByte
  else if t = tInt16 then fun _ => sizeOf decodeInt16
  else if t = tInt32 then fun _ => sizeOf decodeInt32
  else if t = tInt64 then fun _ => sizeOf decodeInt64
  else if t = tUint16 then fun _ => sizeOf decodeUint16
  else if t = tUint32 then fun _ => sizeOf decodeUint32
  else if t = tUint64 then fun _ => sizeOf decodeUint64
  else if t = tBin64 then fun _ => sizeOf decodeBin64
  else if t = tBin128 then fun _ => sizeOf decodeBin128
  else if t = tBin256 then fun _ => sizeOf decodeBin256
  else if t = tFloat32 then fun _ => sizeOf (decodeFloat32 F)
  else if t = tFloat64 then fun _ => sizeOf (decodeFloat64 F)
  else if t = tBytes then fun _ => sizeOf decodeBytes
  else if t = tString then fun _ => sizeOf decodeString
  else if t = tList ∨ t = tBigList then parseList F
  else if t = tMessage ∨ t = tBigMessage then parseMessage F
  else if t = tStruct then fun _ => sizeOf decodeStruct
  else fun _ _ => .err .type 0

theorem ite_app2 {α β γ : Type} (c : Prop) [Decidable c] (f g : α → β → γ) (a : α) (b : β) :
    (if c then f else g) a b = if c then f a b else g a b := by
  split <;> rfl

theorem parseValue_succ (F : FloatOps) (f : Nat) (b : Bytes) :
    parseValue F (f + 1) b = guardSize b.length (branch F (decodeType b).1 f b) := by
  simp only [parseValue, branch, ite_app2]
  rfl

theorem parse_branch (F : FloatOps) (t : UInt8) (q body : Bytes) (f : Nat)
    (h : branch F t f (q ++ (body ++ [t])) = .ok (body ++ [t]).length) :
    parseValue F (f + 1) (q ++ (body ++ [t])) = .ok (body ++ [t]).length := by
  rw [← List.append_assoc] at h ⊢
  rw [parseValue_succ, decodeType_snoc, h]
  exact guardSize_ok.mpr ⟨rfl, by simp⟩

/-- the kinds of continuation; a container code is never the code 0 of the empty buffer -/
inductive Branch (F : FloatOps) (t : UInt8) : (Nat → Bytes → Res Nat) → Prop
  | bool : t = tTrue ∨ t = tFalse → Branch F t fun _ b => .ok (decodeType b).2
  | scalar {α : Type} (d : Bytes → Res (α × Nat)) : GoodDec d → Branch F t fun _ => sizeOf d
  | container {dec : Bytes → Res (Table × Nat)} {get : Table → Bytes → Nat → Res Bytes} {len : Table → Nat} :
      ContainerKind dec get len → t ≠ tUndefined → Branch F t (parseContainer F dec get len)
  | unknown : Branch F t fun _ _ => .err .type 0

theorem Branch.ite {F : FloatOps} {t : UInt8} {c : Prop} [Decidable c] {g1 g2 : Nat → Bytes → Res Nat}
    (h1 : c → Branch F t g1) (h2 : ¬ c → Branch F t g2) : Branch F t (if c then g1 else g2) := by
  by_cases h : c
  · rw [if_pos h]; exact h1 h
  · rw [if_neg h]; exact h2 h

theorem branch_cases (F : FloatOps) (t : UInt8) : Branch F t (branch F t) := by
  refine .ite .bool fun _ => ?_
  refine .ite (fun _ => .scalar _ decodeByte_good) fun _ => ?_
  refine .ite (fun _ => .scalar _ decodeInt16_good) fun _ => ?_
  refine .ite (fun _ => .scalar _ decodeInt32_good) fun _ => ?_
  refine .ite (fun _ => .scalar _ decodeInt64_good) fun _ => ?_
  refine .ite (fun _ => .scalar _ decodeUint16_good) fun _ => ?_
  refine .ite (fun _ => .scalar _ decodeUint32_good) fun _ => ?_
  refine .ite (fun _ => .scalar _ decodeUint64_good) fun _ => ?_
  refine .ite (fun _ => .scalar _ decodeBin64_good) fun _ => ?_
  refine .ite (fun _ => .scalar _ decodeBin128_good) fun _ => ?_
  refine .ite (fun _ => .scalar _ decodeBin256_good) fun _ => ?_
  refine .ite (fun _ => .scalar _ (decodeFloat32_good F)) fun _ => ?_
  refine .ite (fun _ => .scalar _ (decodeFloat64_good F)) fun _ => ?_
  refine .ite (fun _ => .scalar _ decodeBytes_good) fun _ => ?_
  refine .ite (fun _ => .scalar _ decodeString_good) fun _ => ?_
  refine .ite (fun h => parseList_eq F ▸ .container listKind (by rcases h with rfl | rfl <;> decide)) fun _ => ?_
  refine .ite (fun h => parseMessage_eq F ▸ .container messageKind (by rcases h with rfl | rfl <;> decide))
    fun _ => ?_
  refine .ite (fun _ => .scalar _ decodeStruct_good) fun _ => ?_
  exact .unknown

/-! ### safety -/

theorem decodeType_snd_le (b : Bytes) : (decodeType b).2 ≤ b.length := by
  rcases snoc_cases b with rfl | ⟨x, t, rfl⟩
  · exact Nat.le_refl 0
  · simp

section
variable (F : FloatOps)

theorem parseContainer_safe {dec : Bytes → Res (Table × Nat)} {get : Table → Bytes → Nat → Res Bytes}
    {len : Table → Nat} (K : ContainerKind dec get len) (fuel : Nat)
    (hV : ∀ b1 : Bytes, 2 * b1.length + 1 ≤ fuel → SafeP b1.length (parseValue F fuel b1))
    (b : Bytes) (hb : 2 * b.length ≤ fuel + 1) : SafeP b.length (parseContainer F dec get len (fuel + 1) b) := by
  refine container_safe (K.good.safe b) fun t n hd hle => ?_
  refine childLoop_safe _ hle _ 0 fun j _ hj => ?_
  obtain ⟨v, hv, hlen⟩ := K.child b t n hd j (by omega)
  refine ⟨v, hv, fun hne hp => ?_⟩
  -- a child that is not empty is at least three bytes shorter than `b`, so `fuel` suffices for it
  have hvl : v.length + 3 ≤ b.length := by simp only [lastN_length] at hlen; omega
  have := hV v (by omega)
  rw [hp] at this; exact this

/-- ParseValue never panics, terminates within `2·len + 1` units of fuel and reports `n ≤ len`. -/
theorem parseValue_safe : ∀ (fuel : Nat) (b : Bytes), 2 * b.length + 1 ≤ fuel →
    SafeP b.length (parseValue F fuel b) := by
  intro fuel
  induction fuel using Nat.strongRecOn with
  | _ fuel ih =>
    intro b hb
    obtain ⟨f, rfl⟩ : ∃ f, fuel = f + 1 := ⟨fuel - 1, by omega⟩
    rw [parseValue_succ]
    apply SafeP_guard
    have hg := branch_cases F (decodeType b).1
    generalize branch F (decodeType b).1 = g at hg
    cases hg with
    | bool _ => exact decodeType_snd_le b
    | scalar d hd => exact sizeOf_safe hd b
    | container K ht =>
      -- a container is not empty, so there is fuel left for it
      obtain ⟨f', rfl⟩ : ∃ f', f = f' + 1 :=
        ⟨f - 1, by have := List.length_pos_iff.mpr (show b ≠ [] by rintro rfl; exact ht rfl); omega⟩
      exact parseContainer_safe F K f' (ih f' (by omega)) b (by omega)
    | unknown => simp

end
end SpecVerif
