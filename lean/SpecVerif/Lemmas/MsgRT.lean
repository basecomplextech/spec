/-
A message laid out by `encMsg` is read back field by field, by tag and by index.  The table holds `msgPairs fs`,
sorted; a pair comes from a field at a split point `fs = l ++ (tag, v) :: r`, and the raw bytes of that field are
the data area up to its end, `(l.map (·.2)).flatten ++ v`.  `msgV fs` is the value `encMsg fs` opens to.
-/
import SpecVerif.Lemmas.MsgTable
import SpecVerif.Lemmas.ListRT
namespace SpecVerif
open Pinned

theorem entry_unique (l : List (Nat × Nat)) (hd : (l.map (·.1)).Nodup) (a b : Nat × Nat)
    (ha : a ∈ l) (hb : b ∈ l) (h : a.1 = b.1) : a = b := by
  induction l with
  | nil => simp at ha
  | cons x xs ih =>
    simp only [List.map_cons, List.nodup_cons] at hd
    rcases List.mem_cons.mp ha with h1 | h1 <;> rcases List.mem_cons.mp hb with h2 | h2
    · rw [h1, h2]
    · subst h1; exact absurd (by rw [h]; exact List.mem_map_of_mem h2) hd.1
    · subst h2; exact absurd (by rw [← h]; exact List.mem_map_of_mem h1) hd.1
    · exact ih hd.2 h1 h2

/-! ### what is written: the field list and its `(tag, end offset)` pairs -/

/-- what the writer guarantees about a message: distinct tags below 2^16, total size below 2^32
(6 = the big entry size, so the table of either form is counted) -/
structure MsgWF (fs : List (Nat × Bytes)) : Prop where
  nodup : (fs.map (·.1)).Nodup
  tags : ∀ f ∈ fs, f.1 < 65536
  size : ((fs.map (·.2)).flatten).length + 6 * fs.length < 2 ^ 32

/-- the `(tag, end offset)` pairs of a message in write order -/
def msgPairs (fs : List (Nat × Bytes)) : List (Nat × Nat) :=
  (fs.map (·.1)).zip (endOffsets 0 (fs.map (·.2)))

theorem msgPairs_tags (fs : List (Nat × Bytes)) : (msgPairs fs).map (·.1) = fs.map (·.1) :=
  List.map_fst_zip (by simp)

theorem msgPairs_offs_le (fs : List (Nat × Bytes)) :
    ∀ f ∈ msgPairs fs, f.2 ≤ ((fs.map (·.2)).flatten).length := by
  intro f hf
  have := (List.of_mem_zip hf).2
  simpa using endOffsets_le 0 _ f.2 this

theorem sortedEntries_msgPairs_length (fs : List (Nat × Bytes)) :
    (sortedEntries (msgPairs fs)).length = fs.length := by
  rw [(sortedEntries_perm _).length_eq]; simp [msgPairs]

/-! ### the opened message: its table, by index and by tag -/

/-- what `encMsg fs` opens to -/
def msgV (fs : List (Nat × Bytes)) : MsgV :=
  ⟨⟨encMsgTable (isBigMessage (sortedEntries (msgPairs fs))) (sortedEntries (msgPairs fs)),
    ((fs.map (·.2)).flatten).length, isBigMessage (sortedEntries (msgPairs fs))⟩, encMsg fs⟩

theorem msg_decode (p : Bytes) (fs : List (Nat × Bytes)) (wf : MsgWF fs) :
    decodeMessageTable (p ++ encMsg fs) = .ok ((msgV fs).table, (encMsg fs).length) := by
  have htl := encMsgTable_length (isBigMessage (sortedEntries (msgPairs fs))) (sortedEntries (msgPairs fs))
  rw [sortedEntries_msgPairs_length] at htl
  have := wf.size
  exact decodeTable_enc tMessage tBigMessage (by decide) p fs.length htl (by omega)
    (htl ▸ by split <;> simp only [msgFieldBig, msgFieldSmall] <;> omega)

theorem openMessageErr_enc (p : Bytes) (fs : List (Nat × Bytes)) (wf : MsgWF fs) :
    openMessageErr (p ++ encMsg fs) = .ok (msgV fs) := by
  simp only [openMessageErr, msg_decode p fs wf, suffix_append]
  rfl

theorem msg_bounds (fs : List (Nat × Bytes)) (wf : MsgWF fs) :
    ∀ f ∈ sortedEntries (msgPairs fs),
      f.1 < 256 ^ (if (msgV fs).table.big then 2 else 1) ∧ f.2 < 256 ^ (if (msgV fs).table.big then 4 else 2) := by
  intro f hf
  cases hbig : (msgV fs).table.big with
  | true =>
    have hf' := (sortedEntries_perm _).mem_iff.mp hf
    have h1 : f.1 ∈ fs.map (·.1) := by rw [← msgPairs_tags]; exact List.mem_map_of_mem hf'
    obtain ⟨g, hg, hg1⟩ := List.mem_map.mp h1
    have := wf.tags g hg
    have h2 := msgPairs_offs_le fs f hf'
    have := wf.size
    constructor <;> simp only [↓reduceIte] <;> omega
  | false => exact small_msg_bound _ hbig f hf

theorem msgV_fields (fs : List (Nat × Bytes)) : (msgV fs).fields = fs.length :=
  ((msgV fs).table.msgLen_enc _ rfl).trans (sortedEntries_msgPairs_length fs)

theorem msgV_entry (fs : List (Nat × Bytes)) (wf : MsgWF fs) (i : Nat)
    (hi : i < (sortedEntries (msgPairs fs)).length) :
    (msgV fs).table.msgFieldEntry i = .ok (some (sortedEntries (msgPairs fs))[i]) ∧
    (msgV fs).table.msgOffsetByIndex i = .ok (some (sortedEntries (msgPairs fs))[i].2) :=
  ⟨(msgV fs).table.msgFieldEntry_enc _ rfl (msg_bounds fs wf) i hi,
    (msgV fs).table.msgOffsetByIndex_enc _ rfl (msg_bounds fs wf) i hi⟩

theorem msgPairs_nodup (fs : List (Nat × Bytes)) (wf : MsgWF fs) : ((msgPairs fs).map (·.1)).Nodup := by
  rw [msgPairs_tags]; exact wf.nodup

/-- by tag: `Offset(tag)` is the end offset written under `tag` -/
theorem msgV_offset (fs : List (Nat × Bytes)) (wf : MsgWF fs) (tag o : Nat) (h : (tag, o) ∈ msgPairs fs) :
    (msgV fs).table.msgOffset tag = .ok (some o) := by
  have hperm := sortedEntries_perm (msgPairs fs)
  rcases (msgV fs).table.msgOffset_enc _ rfl (msg_bounds fs wf)
      (sortedEntries_sorted _ (msgPairs_nodup fs wf)) tag with ⟨f, hf, ht, hoff⟩ | ⟨hnone, _⟩
  · rw [hoff, ← entry_unique _ (msgPairs_nodup fs wf) (tag, o) f h (hperm.mem_iff.mp hf) ht.symm]
  · exact absurd rfl (hnone _ (hperm.mem_iff.mpr h))

theorem msgV_offset_none (fs : List (Nat × Bytes)) (wf : MsgWF fs) (tag : Nat) (h : tag ∉ fs.map (·.1)) :
    (msgV fs).table.msgOffset tag = .ok none := by
  rcases (msgV fs).table.msgOffset_enc _ rfl (msg_bounds fs wf)
      (sortedEntries_sorted _ (msgPairs_nodup fs wf)) tag with ⟨f, hf, ht, _⟩ | ⟨_, hoff⟩
  · refine absurd ?_ h
    rw [← msgPairs_tags, ← ht]
    exact List.mem_map_of_mem ((sortedEntries_perm _).mem_iff.mp hf)
  · exact hoff

/-! ### fields: a pair of the table and the field it was written for -/

theorem fieldRaw_of_offset (M : MsgV) (tag : Nat) (a : Bytes)
    (ho : M.table.msgOffset tag = .ok (some a.length)) (hd : a.length ≤ M.table.data)
    (hb : a <+: M.bytes) : M.fieldRaw tag = .ok a := by
  simp only [MsgV.fieldRaw, ho, if_neg (Nat.not_lt.mpr hd), slice?_prefix hb]

theorem fieldAtRaw_of_offset (M : MsgV) (i : Nat) (a : Bytes)
    (ho : M.table.msgOffsetByIndex i = .ok (some a.length)) (hd : a.length ≤ M.table.data)
    (hb : a <+: M.bytes) : M.fieldAtRaw i = .ok a := by
  simp only [MsgV.fieldAtRaw, ho, if_neg (Nat.not_lt.mpr hd), slice?_prefix hb]

theorem pair_at (l : List (Nat × Bytes)) (tag : Nat) (v : Bytes) (r : List (Nat × Bytes)) :
    (msgPairs (l ++ (tag, v) :: r))[l.length]? = some (tag, ((l.map (·.2)).flatten ++ v).length) := by
  rw [msgPairs, List.getElem?_zip_eq_some]
  simpa using endOffsets_split 0 (l.map (·.2)) v (r.map (·.2))

theorem pair_split (fs : List (Nat × Bytes)) (tag off : Nat) (h : (tag, off) ∈ msgPairs fs) :
    ∃ l v r, fs = l ++ (tag, v) :: r ∧ off = ((l.map (·.2)).flatten ++ v).length := by
  obtain ⟨j, hj, hget⟩ := List.getElem_of_mem h
  have hj' : j < fs.length := by simpa [msgPairs] using hj
  obtain ⟨l, ⟨t, v⟩, r, rfl, rfl⟩ := exists_split fs j hj'
  rw [List.getElem_eq_iff, pair_at] at hget
  cases hget
  exact ⟨l, v, r, rfl, rfl⟩

theorem field_prefix (l : List (Nat × Bytes)) (tag : Nat) (v : Bytes) (r : List (Nat × Bytes)) :
    ((l.map (·.2)).flatten ++ v) <+: (msgV (l ++ (tag, v) :: r)).bytes ∧
    ((l.map (·.2)).flatten ++ v).length ≤ (msgV (l ++ (tag, v) :: r)).table.data := by
  constructor <;> simp [msgV, encMsg]

theorem msgV_fieldRaw (l : List (Nat × Bytes)) (tag : Nat) (v : Bytes) (r : List (Nat × Bytes))
    (wf : MsgWF (l ++ (tag, v) :: r)) :
    (msgV (l ++ (tag, v) :: r)).fieldRaw tag = .ok ((l.map (·.2)).flatten ++ v) ∧
    (msgV (l ++ (tag, v) :: r)).hasField tag = .ok true := by
  have ho := msgV_offset _ wf tag _ (List.mem_of_getElem? (pair_at l tag v r))
  obtain ⟨hp, hle⟩ := field_prefix l tag v r
  exact ⟨fieldRaw_of_offset _ tag _ ho hle hp, by rw [MsgV.hasField, ho]; simp only [decide_eq_true hle]⟩

theorem msgV_fieldAtRaw (fs : List (Nat × Bytes)) (wf : MsgWF fs) (i : Nat)
    (hi : i < (sortedEntries (msgPairs fs)).length) :
    ∃ l v r, fs = l ++ ((sortedEntries (msgPairs fs))[i].1, v) :: r ∧
      (msgV fs).fieldAtRaw i = .ok ((l.map (·.2)).flatten ++ v) := by
  have ho := (msgV_entry fs wf i hi).2
  obtain ⟨l, v, r, hfs, hoff⟩ := pair_split fs (sortedEntries (msgPairs fs))[i].1 (sortedEntries (msgPairs fs))[i].2
    ((sortedEntries_perm _).mem_iff.mp (List.getElem_mem hi))
  refine ⟨l, v, r, hfs, ?_⟩
  rw [hoff] at ho
  generalize (sortedEntries (msgPairs fs))[i].1 = tag at hfs
  subst hfs
  obtain ⟨hp, hle⟩ := field_prefix l tag v r
  exact fieldAtRaw_of_offset _ i _ ho hle hp

end SpecVerif
