/-
Every decoder of the wire format reads its input from the last byte backwards, so a non-empty buffer is
viewed as `x ++ [t]`: body and type byte.  A reverse varint reader answers from the bytes it consumes
alone (`Reader`).
-/
import SpecVerif.Lemmas.Varint
import SpecVerif.Wire.Decode
namespace SpecVerif
open Pinned

/-! ### the end of a buffer -/

@[simp] theorem decodeType_snoc (q : Bytes) (t : UInt8) : decodeType (q ++ [t]) = (t, 1) := by
  simp [decodeType]

theorem dropLastN_one_snoc (q : Bytes) (t : UInt8) : dropLastN 1 (q ++ [t]) = q := by
  simp [dropLastN]

theorem snoc_length_ne (q : Bytes) (t : UInt8) : ¬ ((q ++ [t]).length = 0) := by simp

theorem take_length_sub (n : Nat) (b : Bytes) : b.take (b.length - n) = dropLastN n b := rfl

theorem take_snoc_sub (x : Bytes) (t : UInt8) (k : Nat) : (x ++ [t]).take (x.length - k) = dropLastN k x := by
  rw [List.take_append_of_le_length (by omega)]; rfl

/-- the `d` bytes that end `k` bytes before the type byte -/
theorem window_snoc (x : Bytes) (t : UInt8) (k d : Nat) :
    ((x ++ [t]).take ((x ++ [t]).length - 1 - k)).drop ((x ++ [t]).length - 1 - k - d) =
      lastN d (dropLastN k x) := by
  simp only [List.length_append, List.length_singleton, Nat.add_sub_cancel]
  rw [List.take_append_of_le_length (by omega)]
  simp only [lastN, dropLastN, List.length_take]
  congr 1; omega

theorem window_snoc2 (x : Bytes) (t : UInt8) (k1 k2 d : Nat) :
    ((x ++ [t]).take (x.length - k1 - k2)).drop (x.length - k1 - k2 - d) = lastN d (dropLastN (k1 + k2) x) := by
  have := window_snoc x t (k1 + k2) d
  simp only [List.length_append, List.length_singleton, Nat.add_sub_cancel, ← Nat.sub_sub] at this
  exact this

theorem window_append (p x : Bytes) {k d : Nat} (h : k + d ≤ x.length) :
    lastN d (dropLastN k (p ++ x)) = lastN d (dropLastN k x) := by
  rw [dropLastN_append_le p x k (by omega), lastN_append_le _ _ (by simp; omega)]

/-! ### reverse varints -/

theorem vval_append (f : UInt8) (p y : Bytes) (h : vwidth f ≤ y.length) : vval f (p ++ y) = vval f y := by
  simp only [vval, lastN_append_le p y h]

/-- `r` reads a reverse varint from the end of its input (a size ≤ 0 reports an invalid one) -/
structure Reader {α : Type} (r : Bytes → α × Int) : Prop where
  le : ∀ b, (r b).2 ≤ b.length
  append : ∀ q p s, 0 < (r (q ++ s)).2 → (r (q ++ s)).2 ≤ s.length → r (p ++ s) = r (q ++ s)
  size : ∀ b, 0 < (r b).2 → (r b).2 = revSize b

theorem reader_revU64 : Reader revU64 where
  le b := by
    rcases snoc_cases b with rfl | ⟨x, f, rfl⟩
    · simp [revU64]
    · rw [revU64_snoc]; split <;> simp <;> omega
  append q p s h0 hs := by
    rcases snoc_cases s with rfl | ⟨y, f, rfl⟩
    · simp only [List.length_nil] at hs; omega
    · rw [← List.append_assoc, ← List.append_assoc, revU64_snoc, revU64_snoc] at *
      simp only [List.length_append, List.length_singleton] at *
      by_cases hq : q.length + y.length < vwidth f
      · simp [hq] at h0
      · simp only [hq, ↓reduceIte] at hs ⊢
        have hw : vwidth f ≤ y.length := by omega
        rw [if_neg (by omega), vval_append f p y hw, vval_append f q y hw]
  size b h0 := by
    rcases snoc_cases b with rfl | ⟨x, f, rfl⟩
    · simp [revU64] at h0
    · rw [revU64_snoc, revSize_snoc]; split <;> simp

theorem Reader.comp {α β : Type} {r : Bytes → α × Int} (hr : Reader r) (g : α × Int → β × Int)
    (hg : ∀ x, 0 < (g x).2 → (g x).2 = x.2) : Reader fun b => g (r b) where
  le b := by
    by_cases h : 0 < (g (r b)).2
    · rw [hg _ h]; exact hr.le b
    · omega
  append q p s h0 hs := by
    have e := hg _ h0
    rw [hr.append q p s (e ▸ h0) (e ▸ hs)]
  size b h0 := by
    have e := hg _ h0
    exact e ▸ hr.size b (e ▸ h0)

theorem reader_revU32 : Reader revU32 where
  le b := by
    rcases snoc_cases b with rfl | ⟨x, f, rfl⟩
    · simp [revU32]
    · rw [revU32_snoc]; split
      · omega
      · exact reader_revU64.le _
  append q p s h0 hs := by
    rcases snoc_cases s with rfl | ⟨y, f, rfl⟩
    · simp only [List.length_nil] at hs; omega
    · rw [← List.append_assoc, revU32_snoc] at h0 hs
      rw [← List.append_assoc, ← List.append_assoc, revU32_snoc, revU32_snoc]
      split
      · rfl
      · rw [if_neg ‹_›] at h0 hs
        simpa only [List.append_assoc] using reader_revU64.append q p (y ++ [f]) (by simpa using h0) (by simpa using hs)
  size b h0 := by
    rcases snoc_cases b with rfl | ⟨x, f, rfl⟩
    · simp [revU32] at h0
    · rw [revU32_snoc] at h0 ⊢
      split
      · rw [if_pos ‹_›] at h0; simp at h0
      · rw [if_neg ‹_›] at h0; exact reader_revU64.size _ h0

theorem reader_revI32 : Reader revI32 :=
  reader_revU32.comp (fun x => if x.2 ≤ 0 then (0, x.2) else (unzig x.1, x.2)) (by intro x _; split <;> rfl)

theorem reader_revI64 : Reader revI64 :=
  reader_revU64.comp (fun x => if x.2 ≤ 0 then (0, x.2) else (unzig x.1, x.2)) (by intro x _; split <;> rfl)

theorem reader_decodeSize : Reader decodeSize :=
  reader_revU32.comp (fun x => if x.2 = 0 then (0, -1) else (x.1, x.2)) (by intro x; split <;> simp)

theorem revSize_le (b : Bytes) : revSize b ≤ b.length := by
  rcases snoc_cases b with rfl | ⟨y, f, rfl⟩
  · simp [revSize]
  · rw [revSize_snoc]; split <;> simp <;> omega

theorem decodeSize_pos {b : Bytes} (h : ¬ (decodeSize b).2 < 0) : 0 < (decodeSize b).2 := by
  have e : decodeSize b = if (revU32 b).2 = 0 then (0, -1) else revU32 b := rfl
  rw [e] at h ⊢
  split
  · rw [if_pos ‹_›] at h; simp at h
  · rw [if_neg ‹_›] at h; omega

theorem decodeSize_append (q p x : Bytes) (h : ¬ (decodeSize (q ++ x)).2 < 0)
    (hx : (decodeSize (q ++ x)).2.toNat ≤ x.length) : decodeSize (p ++ x) = decodeSize (q ++ x) :=
  reader_decodeSize.append q p x (decodeSize_pos h) (by omega)

/-! ### the exact-size form

`local_int32 q p body h` (likewise `local_int64`, `local_uint32`, `local_uint64`) proves a goal about a decoder
written out over `revI32 (p ++ body)` from `h`, the same statement about `q ++ body` with the size `body.length`:
it reads off `h` that the reader consumed the whole of `body` and rewrites with `revI32_prefix`. -/

theorem Reader.prefix {α : Type} {r : Bytes → α × Int} (hr : Reader r) (q p s : Bytes) (hs : s ≠ [])
    (hm : (r (q ++ s)).2 = s.length) : r (p ++ s) = r (q ++ s) :=
  hr.append q p s (by have := List.length_pos_iff.mpr hs; omega) (by omega)

theorem revU32_prefix (q p s : Bytes) (hs : s ≠ []) (hm : (revU32 (q ++ s)).2 = s.length) :
    revU32 (p ++ s) = revU32 (q ++ s) := reader_revU32.prefix q p s hs hm
theorem revU64_prefix (q p s : Bytes) (hs : s ≠ []) (hm : (revU64 (q ++ s)).2 = s.length) :
    revU64 (p ++ s) = revU64 (q ++ s) := reader_revU64.prefix q p s hs hm
theorem revI32_prefix (q p s : Bytes) (hs : s ≠ []) (hm : (revI32 (q ++ s)).2 = s.length) :
    revI32 (p ++ s) = revI32 (q ++ s) := reader_revI32.prefix q p s hs hm
theorem revI64_prefix (q p s : Bytes) (hs : s ≠ []) (hm : (revI64 (q ++ s)).2 = s.length) :
    revI64 (p ++ s) = revI64 (q ++ s) := reader_revI64.prefix q p s hs hm

macro "local_int32" q:ident p:ident body:ident h:ident : tactic => `(tactic| (
    have key : (revI32 ($q ++ $body)).2 = ($body).length ∧ 0 < (revI32 ($q ++ $body)).2 := by
      generalize revI32 ($q ++ $body) = r at $h:ident
      obtain ⟨v', m⟩ := r
      simp only at $h:ident ⊢
      repeat' split at $h:ident
      all_goals simp at $h:ident
      all_goals omega
    have hb : $body ≠ [] := by
      intro h0; subst h0; simp at key; omega
    rw [revI32_prefix $q $p $body hb key.1]; exact $h))

macro "local_int64" q:ident p:ident body:ident h:ident : tactic => `(tactic| (
    have key : (revI64 ($q ++ $body)).2 = ($body).length ∧ 0 < (revI64 ($q ++ $body)).2 := by
      generalize revI64 ($q ++ $body) = r at $h:ident
      obtain ⟨v', m⟩ := r
      simp only at $h:ident ⊢
      repeat' split at $h:ident
      all_goals simp at $h:ident
      all_goals omega
    have hb : $body ≠ [] := by
      intro h0; subst h0; simp at key; omega
    rw [revI64_prefix $q $p $body hb key.1]; exact $h))

macro "local_uint32" q:ident p:ident body:ident h:ident : tactic => `(tactic| (
    have key : (revU32 ($q ++ $body)).2 = ($body).length ∧ 0 < (revU32 ($q ++ $body)).2 := by
      generalize revU32 ($q ++ $body) = r at $h:ident
      obtain ⟨v', m⟩ := r
      simp only at $h:ident ⊢
      repeat' split at $h:ident
      all_goals simp at $h:ident
      all_goals omega
    have hb : $body ≠ [] := by
      intro h0; subst h0; simp at key; omega
    rw [revU32_prefix $q $p $body hb key.1]; exact $h))

macro "local_uint64" q:ident p:ident body:ident h:ident : tactic => `(tactic| (
    have key : (revU64 ($q ++ $body)).2 = ($body).length ∧ 0 < (revU64 ($q ++ $body)).2 := by
      generalize revU64 ($q ++ $body) = r at $h:ident
      obtain ⟨v', m⟩ := r
      simp only at $h:ident ⊢
      repeat' split at $h:ident
      all_goals simp at $h:ident
      all_goals omega
    have hb : $body ≠ [] := by
      intro h0; subst h0; simp at key; omega
    rw [revU64_prefix $q $p $body hb key.1]; exact $h))

end SpecVerif
