/-
The set of byte strings the encoders produce (`Valid`): the 15 scalar kinds with their value ranges,
closed under lists and messages. Lemmas/ValidParse.lean proves that the parser accepts each of them
with exactly its own size and that the probe delimits it.
-/
import SpecVerif.Lemmas.MsgRT
namespace SpecVerif
open Pinned

inductive Valid : Bytes → Prop
  | bool (v : Bool) : Valid (encBool v)
  | byte (v : UInt8) : Valid (encByte v)
  | i16 (v : Int) (h : -32768 ≤ v ∧ v ≤ 32767) : Valid (encInt16 v)
  | i32 (v : Int) (h : -2147483648 ≤ v ∧ v ≤ 2147483647) : Valid (encInt32 v)
  | i64 (v : Int) (h : -9223372036854775808 ≤ v ∧ v ≤ 9223372036854775807) : Valid (encInt64 v)
  | u16 (v : Nat) (h : v ≤ 65535) : Valid (encUint16 v)
  | u32 (v : Nat) (h : v ≤ 4294967295) : Valid (encUint32 v)
  | u64 (v : Nat) (h : v ≤ 18446744073709551615) : Valid (encUint64 v)
  | f32 (x : Nat) (h : x < 2 ^ 32) : Valid (encFloat32 x)
  | f64 (x : Nat) (h : x < 2 ^ 64) : Valid (encFloat64 x)
  | bin64 (b : Bytes) (h : b.length = 8) : Valid (encBin64 b)
  | bin128 (b : Bytes) (h : b.length = 16) : Valid (encBin128 b)
  | bin256 (b : Bytes) (h : b.length = 32) : Valid (encBin256 b)
  | bytes (b : Bytes) (h : b.length < 2 ^ 32) : Valid (encBytes b)
  | str (b : Bytes) (h : b.length < 2 ^ 32) : Valid (encString b)
  -- 4 = the big entry size: data and table of either form stay below 2^32
  | list (es : List Bytes) (h : ∀ e ∈ es, Valid e) (hsz : es.flatten.length + 4 * es.length < 2 ^ 32) :
      Valid (encList es)
  | msg (fs : List (Nat × Bytes)) (h : ∀ f ∈ fs, Valid f.2) (wf : MsgWF fs) : Valid (encMsg fs)

end SpecVerif
