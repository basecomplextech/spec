/-
The decoders of /repo/internal/decode on a buffer `x ++ [t]`.  The type byte `t` fixes the layout of the
body `x` (what the probe computes), and behind the codes it accepts a typed decoder runs one body per
layout.  What is proved of a body (`GoodBody`) holds of every decoder that dispatches to it.
-/
import SpecVerif.Lemmas.Reader
namespace SpecVerif
open Pinned

/-- no panic, and the reported size (with a value or with an error) is within `len` -/
def SafeN {α : Type} (len : Nat) : Res (α × Nat) → Prop
  | .ok (_, n) => n ≤ len
  | .err _ n => n ≤ len
  | .panic => False

@[simp] theorem SafeN_ok {α} (len : Nat) (a : α) (n : Nat) : SafeN len (.ok (a, n)) = (n ≤ len) := rfl
@[simp] theorem SafeN_err {α} (len : Nat) (e : Err) (n : Nat) : SafeN (α := α) len (.err e n) = (n ≤ len) := rfl
@[simp] theorem SafeN_panic {α} (len : Nat) : SafeN (α := α) len .panic = False := rfl

/-- what `d` accepts behind one prefix it accepts, with the same result, behind every prefix -/
def LocalDec {α : Type} (d : Bytes → Res (α × Nat)) : Prop :=
  ∀ (q p s : Bytes) (v : α), s ≠ [] → d (q ++ s) = .ok (v, s.length) → d (p ++ s) = .ok (v, s.length)

theorem ite_err_eq_ok {α : Type} (c : Prop) [Decidable c] (e : Err) (n : Nat) (r : Res α) (a : α) :
    (if c then .err e n else r) = .ok a ↔ ¬ c ∧ r = .ok a := by
  by_cases h : c <;> simp [h]

theorem SafeN_ite_err {α : Type} (L : Nat) (c : Prop) [Decidable c] (e : Err) (n : Nat) (r : Res (α × Nat)) :
    SafeN L (if c then .err e n else r) = ((c → n ≤ L) ∧ (¬ c → SafeN L r)) := by
  by_cases h : c <;> simp [h]

theorem ite_ite_same {α : Type} (a b : Prop) [Decidable a] [Decidable b] (x y : α) :
    (if a then x else if b then x else y) = if a ∨ b then x else y := by
  by_cases a <;> by_cases b <;> simp [*]

/-! ### it suffices to look at `x ++ [t]` -/

section
variable {α : Type} {d : Bytes → Res (α × Nat)}

theorem SafeN.of_snoc (h0 : SafeN 0 (d [])) (h : ∀ x t, SafeN (x.length + 1) (d (x ++ [t]))) (b : Bytes) :
    SafeN b.length (d b) := by
  rcases snoc_cases b with rfl | ⟨x, t, rfl⟩
  · exact h0
  · simpa using h x t

theorem LocalDec.of_snoc
    (h : ∀ q p x t v, d (q ++ x ++ [t]) = .ok (v, x.length + 1) → d (p ++ x ++ [t]) = .ok (v, x.length + 1)) :
    LocalDec d := by
  intro q p s v hs hq
  obtain ⟨x, t, rfl⟩ := (snoc_cases s).resolve_left hs
  simp only [← List.append_assoc, List.length_append, List.length_singleton] at hq ⊢
  exact h q p x t v hq
end

/-! ### the probe: the type byte fixes the layout of what stands before it -/

inductive Layout where
  | fixed (k : Nat)
  | varint
  /-- a size varint, before it that many bytes and `extra` more -/
  | sized (extra : Nat)
  /-- table size varint, data size varint, table, data -/
  | table
  deriving DecidableEq

def layout (t : UInt8) : Option Layout :=
  if t = tTrue ∨ t = tFalse then some (.fixed 0)
  else if t = tByte then some (.fixed 1)
  else if t = tInt16 ∨ t = tInt32 ∨ t = tInt64 ∨ t = tUint16 ∨ t = tUint32 ∨ t = tUint64 then some .varint
  else if t = tFloat32 then some (.fixed 4)
  else if t = tFloat64 then some (.fixed 8)
  else if t = tBin64 then some (.fixed 8)
  else if t = tBin128 then some (.fixed 16)
  else if t = tBin256 then some (.fixed 32)
  else if t = tBytes then some (.sized 0)
  else if t = tString then some (.sized 1)
  else if t = tList ∨ t = tBigList ∨ t = tMessage ∨ t = tBigMessage then some .table
  else if t = tStruct then some (.sized 0)
  else none

/-- the size, type byte included, of the value whose body ends `x`; `none` = invalid data -/
def Layout.size : Layout → Bytes → Option Nat
  | .fixed k, x => if x.length < k then none else some (1 + k)
  | .varint, x => if revSize x = 0 then none else some (1 + revSize x)
  | .sized e, x =>
    if (decodeSize x).2 < 0 then none else
    if x.length + 1 < 1 + (decodeSize x).2.toNat + (decodeSize x).1 + e then none
    else some (1 + (decodeSize x).2.toNat + (decodeSize x).1 + e)
  | .table, x =>
    let r1 := decodeSize x
    let r2 := decodeSize (dropLastN r1.2.toNat x)
    if r1.2 < 0 then none else if r2.2 < 0 then none else
    if x.length + 1 < 1 + r1.2.toNat + r1.1 + r2.2.toNat + r2.1 then none
    else some (1 + r1.2.toNat + r1.1 + r2.2.toNat + r2.1)

def probeRes (t : UInt8) : Option (Option Nat) → Res (UInt8 × Nat)
  | none => .err .type 0
  | some none => .err .data 0
  | some (some n) => .ok (t, n)

/-- both sides are the same chain of tests on `t`: `probeRes` is pushed to its leaves -/
theorem decodeTypeSize_snoc (x : Bytes) (t : UInt8) :
    decodeTypeSize (x ++ [t]) = probeRes t ((layout t).map (·.size x)) := by
  simp only [decodeTypeSize, snoc_length_ne, decodeType_snoc, ↓reduceIte, take_length_sub, dropLastN_one_snoc,
    layout, apply_ite (Option.map _), Option.map_some, Option.map_none]
  simp only [Layout.size, apply_ite some, apply_ite (probeRes t)]
  simp only [probeRes, List.length_append, List.length_singleton, Nat.not_lt_zero, ↓reduceIte, Nat.add_zero]

theorem probe_of_layout {t : UInt8} {L : Layout} {x : Bytes} {n : Nat} (hL : layout t = some L)
    (hs : L.size x = some n) : decodeTypeSize (x ++ [t]) = .ok (t, n) := by
  rw [decodeTypeSize_snoc, hL, Option.map_some, hs]; rfl

theorem Layout.size_le (L : Layout) (x : Bytes) (n : Nat) (h : L.size x = some n) : n ≤ x.length + 1 := by
  have := revSize_le x
  cases L <;> simp only [Layout.size, Option.ite_none_left_eq_some, Option.some.injEq] at h <;> omega

theorem decodeTypeSize_safe (b : Bytes) : SafeN b.length (decodeTypeSize b) :=
  SafeN.of_snoc (d := decodeTypeSize) (Nat.le_refl 0) (fun x t => by
    rw [decodeTypeSize_snoc]
    cases layout t with
    | none => simp [probeRes]
    | some L =>
      cases h : L.size x with
      | none => simp [probeRes, h]
      | some n => simpa [probeRes, h] using L.size_le x n h) b

theorem layout_bool {t : UInt8} (h : t = tTrue ∨ t = tFalse) : layout t = some (.fixed 0) := by
  rcases h with h | h <;> subst h <;> decide

/-! ### decoders and bodies -/

structure GoodDec {α : Type} (d : Bytes → Res (α × Nat)) : Prop where
  safe : ∀ b, SafeN b.length (d b)
  loc : LocalDec d
  probe : ∀ x t v n, d (x ++ [t]) = .ok (v, n) → decodeTypeSize (x ++ [t]) = .ok (t, n)

/-- what a decoder does behind a type byte of layout `L` -/
structure GoodBody {α : Type} (L : Layout) (B : Bytes → Res (α × Nat)) : Prop where
  safe : ∀ x, SafeN (x.length + 1) (B x)
  loc : ∀ q p x v, B (q ++ x) = .ok (v, x.length + 1) → B (p ++ x) = .ok (v, x.length + 1)
  size : ∀ x v n, B x = .ok (v, n) → L.size x = some n

/-- behind the type byte `t` a decoder runs a good body of the layout of `t`, or rejects -/
inductive BodyAt {α : Type} (t : UInt8) (B : Bytes → Res (α × Nat)) : Prop
  | good {L : Layout} : layout t = some L → GoodBody L B → BodyAt t B
  | reject (e : Err) : (∀ x, B x = .err e 0) → BodyAt t B

theorem BodyAt.ite {α : Type} {t : UInt8} {c : Prop} [Decidable c] {B1 B2 : Bytes → Res (α × Nat)}
    (h1 : c → BodyAt t B1) (h2 : ¬ c → BodyAt t B2) : BodyAt t fun x => if c then B1 x else B2 x := by
  by_cases h : c
  · simp only [if_pos h]; exact h1 h
  · simp only [if_neg h]; exact h2 h

theorem BodyAt.code {α : Type} {t code : UInt8} {L : Layout} {B : Bytes → Res (α × Nat)}
    (hL : layout code = some L) (hB : GoodBody L B) : BodyAt t fun x => if t ≠ code then .err .type 0 else B x :=
  .ite (fun _ => .reject .type fun _ => rfl) fun h => .good (Decidable.not_not.mp h ▸ hL) hB

theorem GoodDec.of_bodies {α : Type} {d : Bytes → Res (α × Nat)} {D : UInt8 → Bytes → Res (α × Nat)}
    (h0 : SafeN 0 (d [])) (hd : ∀ x t, d (x ++ [t]) = D t x) (hD : ∀ t, BodyAt t (D t)) : GoodDec d where
  safe := SafeN.of_snoc h0 fun x t => by
    rw [hd]
    cases hD t with
    | good _ hB => exact hB.safe x
    | reject e he => rw [he]; exact Nat.zero_le _
  loc := LocalDec.of_snoc fun q p x t v h => by
    rw [hd] at h ⊢
    cases hD t with
    | good _ hB => exact hB.loc q p x v h
    | reject e he => rw [he] at h; cases h
  probe x t v n h := by
    rw [hd] at h
    cases hD t with
    | good hL hB => exact probe_of_layout hL (hB.size x v n h)
    | reject e he => rw [he] at h; cases h

/-! ### integers: a reverse varint before the type byte -/

/-- `ovf`: the values that do not fit the width asked for; `n`: the size of the type byte -/
def varintBody {α : Type} (rd : Bytes → α × Int) (ovf : α → Prop) [DecidablePred ovf] (n : Nat)
    (x : Bytes) : Res (α × Nat) :=
  let (v, m) := rd x
  if m ≤ 0 then .err .data 0 else if ovf v then .err .overflow 0 else .ok (v, n + m.toNat)

/-- DecodeInt16 .. DecodeUint64: a value stored under the code `c16` or `c32` is read by `rd32`, one
stored under `c64` by `rd64` -/
def decodeVarint {α : Type} [OfNat α 0] (c16 c32 c64 : UInt8) (rd32 rd64 : Bytes → α × Int)
    (ovf32 ovf64 : α → Prop) [DecidablePred ovf32] [DecidablePred ovf64] (b : Bytes) : Res (α × Nat) :=
  if b.length = 0 then .ok (0, 0) else
  let (t, n) := decodeType b
  if t = c16 ∨ t = c32 then varintBody rd32 ovf32 n (dropLastN n b)
  else if t = c64 then varintBody rd64 ovf64 n (dropLastN n b)
  else .err .type 0

theorem decodeInt16_eq : decodeInt16 = decodeVarint tInt16 tInt32 tInt64 revI32 revI64
    (fun v => v < -32768 ∨ v > 32767) (fun v => v < -32768 ∨ v > 32767) := by
  funext b
  simp only [decodeInt16, decodeVarint, varintBody, ite_ite_same]

theorem decodeInt32_eq : decodeInt32 = decodeVarint tInt16 tInt32 tInt64 revI32 revI64
    (fun _ => False) (fun v => v < -2147483648 ∨ v > 2147483647) := by
  funext b
  simp only [decodeInt32, decodeVarint, varintBody, ite_ite_same, if_false]

theorem decodeInt64_eq : decodeInt64 = decodeVarint tInt16 tInt32 tInt64 revI32 revI64
    (fun _ => False) (fun _ => False) := rfl

theorem decodeUint16_eq : decodeUint16 = decodeVarint tUint16 tUint32 tUint64 revU32 revU64
    (fun v => v > 65535) (fun v => v > 65535) := rfl

theorem decodeUint32_eq : decodeUint32 = decodeVarint tUint16 tUint32 tUint64 revU32 revU64
    (fun _ => False) (fun v => v > 4294967295) := rfl

theorem decodeUint64_eq : decodeUint64 = decodeVarint tUint16 tUint32 tUint64 revU32 revU64
    (fun _ => False) (fun _ => False) := rfl

theorem decodeVarint_snoc {α : Type} [OfNat α 0] {c16 c32 c64 : UInt8} {rd32 rd64 : Bytes → α × Int}
    {ovf32 ovf64 : α → Prop} [DecidablePred ovf32] [DecidablePred ovf64] (q : Bytes) (t : UInt8) :
    decodeVarint c16 c32 c64 rd32 rd64 ovf32 ovf64 (q ++ [t]) =
      if t = c16 ∨ t = c32 then varintBody rd32 ovf32 1 q
      else if t = c64 then varintBody rd64 ovf64 1 q
      else .err .type 0 := by
  simp only [decodeVarint, snoc_length_ne, ↓reduceIte, decodeType_snoc, dropLastN_one_snoc]

section
variable {α : Type} {rd : Bytes → α × Int} (ovf : α → Prop) [DecidablePred ovf]

theorem varintBody_eq (k : Nat) (x : Bytes) :
    varintBody rd ovf k x = if (rd x).2 ≤ 0 then .err .data 0 else
      if ovf (rd x).1 then .err .overflow 0 else .ok ((rd x).1, k + (rd x).2.toNat) := rfl

theorem varintBody_ok {k : Nat} {x : Bytes} {v : α} {n : Nat} (h : varintBody rd ovf k x = .ok (v, n)) :
    0 < (rd x).2 ∧ n = k + (rd x).2.toNat := by
  simp only [varintBody_eq, ite_err_eq_ok, Res.ok.injEq, Prod.mk.injEq] at h
  exact ⟨by omega, h.2.2.2.symm⟩

theorem varintBody_good (hr : Reader rd) : GoodBody .varint (varintBody rd ovf 1) where
  safe x := by
    have := hr.le x
    simp only [varintBody_eq, SafeN_ite_err, SafeN_ok]
    omega
  loc q p x v h := by
    obtain ⟨h0, hn⟩ := varintBody_ok ovf h
    rw [varintBody_eq, hr.append q p x h0 (by omega), ← varintBody_eq]; exact h
  size x v n h := by
    obtain ⟨h0, hn⟩ := varintBody_ok ovf h
    have := hr.size x h0
    rw [Layout.size, if_neg (by omega)]; congr 1; omega
end

theorem decodeVarint_good {α : Type} [OfNat α 0] {c16 c32 c64 : UInt8} {rd32 rd64 : Bytes → α × Int}
    {ovf32 ovf64 : α → Prop} [DecidablePred ovf32] [DecidablePred ovf64] (h32 : Reader rd32) (h64 : Reader rd64)
    (hc : ∀ t ∈ [c16, c32, c64], layout t = some .varint) :
    GoodDec (decodeVarint c16 c32 c64 rd32 rd64 ovf32 ovf64) :=
  .of_bodies (Nat.le_refl 0) decodeVarint_snoc fun t =>
    .ite (fun h => .good (hc t (by rcases h with rfl | rfl <;> simp)) (varintBody_good ovf32 h32)) fun _ =>
    .ite (fun h => .good (hc t (by simp [h])) (varintBody_good ovf64 h64)) fun _ => .reject .type fun _ => rfl

theorem decodeInt16_good : GoodDec decodeInt16 :=
  decodeInt16_eq ▸ decodeVarint_good reader_revI32 reader_revI64 (by decide)
theorem decodeInt32_good : GoodDec decodeInt32 :=
  decodeInt32_eq ▸ decodeVarint_good reader_revI32 reader_revI64 (by decide)
theorem decodeInt64_good : GoodDec decodeInt64 :=
  decodeInt64_eq ▸ decodeVarint_good reader_revI32 reader_revI64 (by decide)
theorem decodeUint16_good : GoodDec decodeUint16 :=
  decodeUint16_eq ▸ decodeVarint_good reader_revU32 reader_revU64 (by decide)
theorem decodeUint32_good : GoodDec decodeUint32 :=
  decodeUint32_eq ▸ decodeVarint_good reader_revU32 reader_revU64 (by decide)
theorem decodeUint64_good : GoodDec decodeUint64 :=
  decodeUint64_eq ▸ decodeVarint_good reader_revU32 reader_revU64 (by decide)

/-! ### bool, byte, bin, float: a fixed number of bytes before the type byte -/

/-- DecodeBool does not test the type byte (anything but `true` reads as `false`), so it is not a
`GoodDec`: it disagrees with the probe on every other code -/
theorem decodeBool_snoc (x : Bytes) (t : UInt8) : decodeBool (x ++ [t]) = .ok (t == tTrue, 1) := by
  simp only [decodeBool, snoc_length_ne, decodeType_snoc, ↓reduceIte]

theorem decodeBool_safe (b : Bytes) : SafeN b.length (decodeBool b) :=
  SafeN.of_snoc (d := decodeBool) (Nat.le_refl 0) (fun x t => by rw [decodeBool_snoc]; simp) b

theorem decodeBool_local : LocalDec decodeBool :=
  LocalDec.of_snoc fun q p x t v h => by rw [decodeBool_snoc] at h ⊢; exact h

def accepted {α : Type} (n : Nat) : Option α → Res (α × Nat)
  | none => .err .overflow 0
  | some v => .ok (v, n)

/-- `errN`: the size reported when the `k` bytes are missing -/
def fixedBody {α : Type} (k errN : Nat) (accept : Bytes → Option α) (x : Bytes) : Res (α × Nat) :=
  if x.length < k then .err .data errN else accepted (k + 1) (accept (lastN k x))

theorem fixedBody_ok {α : Type} {k errN : Nat} {accept : Bytes → Option α} {x : Bytes} {v : α} {n : Nat} :
    fixedBody k errN accept x = .ok (v, n) ↔ k ≤ x.length ∧ accept (lastN k x) = some v ∧ n = k + 1 := by
  rw [fixedBody, ite_err_eq_ok, Nat.not_lt]
  cases accept (lastN k x) <;> simp [accepted, eq_comm]

theorem fixedBody_good {α : Type} (k errN : Nat) {accept : Bytes → Option α} (he : errN ≤ 1) :
    GoodBody (.fixed k) (fixedBody k errN accept) where
  safe x := by
    simp only [fixedBody, SafeN_ite_err]
    cases accept (lastN k x) <;> simp only [accepted, SafeN_ok, SafeN_err] <;> omega
  loc q p x v h := by
    obtain ⟨-, ha, hn⟩ := fixedBody_ok.mp h
    -- the value is exactly the `k` bytes of `x`
    obtain rfl : k = x.length := by omega
    rw [lastN_append] at ha
    exact fixedBody_ok.mpr ⟨by simp, by rw [lastN_append]; exact ha, hn⟩
  size x v n h := by
    obtain ⟨hk, -, rfl⟩ := fixedBody_ok.mp h
    rw [Layout.size, if_neg (by omega), Nat.add_comm]

theorem decodeByte_snoc (x : Bytes) (t : UInt8) :
    decodeByte (x ++ [t]) =
      if t ≠ tByte then .err .type 0 else fixedBody 1 0 (fun y => some ((y ++ [t]).headD 0)) x := by
  simp only [decodeByte, fixedBody, accepted, snoc_length_ne, decodeType_snoc, ↓reduceIte, lastN_succ_snoc x t 1]
  have e : (x.length + 1 < 2) = (x.length < 1) := propext (by omega)
  simp only [List.length_append, List.length_singleton, e]

theorem decodeByte_good : GoodDec decodeByte :=
  .of_bodies (Nat.le_refl 0) decodeByte_snoc fun _ => .code (by decide) (fixedBody_good 1 0 (Nat.zero_le 1))

theorem decodeBin_snoc (k : Nat) (code : UInt8) (x : Bytes) (t : UInt8) :
    decodeBin k code (x ++ [t]) = if t ≠ code then .err .type 0 else fixedBody k 1 some x := by
  simp only [decodeBin, fixedBody, accepted, snoc_length_ne, decodeType_snoc, ↓reduceIte, Nat.add_comm 1 k]
  rw [lastN_take_snoc_ite x t k (Res.err .data 1) fun y => Res.ok (y, k + 1)]

theorem decodeBin_good (k : Nat) (code : UInt8) (hk : layout code = some (.fixed k)) : GoodDec (decodeBin k code) :=
  .of_bodies (Nat.le_refl 0) (decodeBin_snoc k code) fun _ => .code hk (fixedBody_good k 1 (Nat.le_refl 1))

theorem decodeBin64_good : GoodDec decodeBin64 := decodeBin_good 8 tBin64 (by decide)
theorem decodeBin128_good : GoodDec decodeBin128 := decodeBin_good 16 tBin128 (by decide)
theorem decodeBin256_good : GoodDec decodeBin256 := decodeBin_good 32 tBin256 (by decide)

theorem decodeFloat64'_snoc (F : FloatOps) (q : Bytes) (t : UInt8) :
    decodeFloat64' F (q ++ [t]) =
      if t = tFloat32 then (if q.length < 4 then none else some (F.widen (be (lastN 4 q)), 5))
      else if t = tFloat64 then (if q.length < 8 then none else some (be (lastN 8 q), 9))
      else none := by
  simp only [decodeFloat64', decodeType_snoc]
  rw [lastN_take_snoc_ite q t 4 none fun y => some (F.widen (be y), 5),
    lastN_take_snoc_ite q t 8 none fun y => some (be y, 9)]

/-- DecodeFloat32 on a float64 value: narrowed, unless finite and outside the float32 range -/
def narrowChecked (F : FloatOps) (v : Nat) : Option Nat :=
  if F.isInf v then some (F.narrow v) else if F.ltNegMax v then none else if F.gtMax v then none
  else some (F.narrow v)

theorem accepted_narrowChecked (F : FloatOps) (n v : Nat) :
    accepted n (narrowChecked F v) =
      if F.isInf v then .ok (F.narrow v, n) else if F.ltNegMax v then .err .overflow 0
      else if F.gtMax v then .err .overflow 0 else .ok (F.narrow v, n) := by
  unfold narrowChecked
  by_cases h1 : F.isInf v = true
  · simp only [h1, ↓reduceIte, accepted]
  by_cases h2 : F.ltNegMax v = true
  · simp only [h1, h2, Bool.false_eq_true, ↓reduceIte, accepted]
  by_cases h3 : F.gtMax v = true <;> simp only [h1, h2, h3, Bool.false_eq_true, ↓reduceIte, accepted]

/-- DecodeFloat32 and DecodeFloat64: the stored value as float64 bits, then `accept` -/
def floatDec (F : FloatOps) (accept : Nat → Option Nat) (b : Bytes) : Res (Nat × Nat) :=
  if b.length = 0 then .ok (0, 0) else
  match decodeFloat64' F b with
  | none => .err .data 0
  | some (v, n) => accepted n (accept v)

theorem decodeFloat64_eq (F : FloatOps) : decodeFloat64 F = floatDec F some := rfl

theorem decodeFloat32_eq (F : FloatOps) : decodeFloat32 F = floatDec F (narrowChecked F) := by
  funext b
  unfold decodeFloat32 floatDec
  by_cases h0 : b.length = 0
  · rw [if_pos h0, if_pos h0]
  rw [if_neg h0, if_neg h0]
  cases decodeFloat64' F b with
  | none => rfl
  | some r => exact (accepted_narrowChecked F r.2 r.1).symm

theorem floatDec_snoc (F : FloatOps) (accept : Nat → Option Nat) (x : Bytes) (t : UInt8) :
    floatDec F accept (x ++ [t]) =
      if t = tFloat32 then fixedBody 4 0 (fun y => accept (F.widen (be y))) x
      else if t = tFloat64 then fixedBody 8 0 (fun y => accept (be y)) x
      else .err .data 0 := by
  simp only [floatDec, snoc_length_ne, ↓reduceIte, decodeFloat64'_snoc, fixedBody]
  by_cases h1 : t = tFloat32
  · by_cases h : x.length < 4 <;> simp only [if_pos h1, h, ↓reduceIte]
  · by_cases h2 : t = tFloat64
    · by_cases h : x.length < 8 <;> simp only [if_neg h1, if_pos h2, h, ↓reduceIte]
    · simp only [if_neg h1, if_neg h2]

theorem floatDec_good (F : FloatOps) (accept : Nat → Option Nat) : GoodDec (floatDec F accept) :=
  .of_bodies (Nat.le_refl 0) (floatDec_snoc F accept) fun t =>
    .ite (fun h => .good (by rw [h]; decide) (fixedBody_good 4 0 (Nat.zero_le 1))) fun _ =>
    .ite (fun h => .good (by rw [h]; decide) (fixedBody_good 8 0 (Nat.zero_le 1))) fun _ =>
      .reject .data fun _ => rfl

theorem decodeFloat64_good (F : FloatOps) : GoodDec (decodeFloat64 F) := decodeFloat64_eq F ▸ floatDec_good F some
theorem decodeFloat32_good (F : FloatOps) : GoodDec (decodeFloat32 F) :=
  decodeFloat32_eq F ▸ floatDec_good F (narrowChecked F)

/-! ### bytes, string, struct: a size varint, before it `e` bytes and the data -/

/-- size varint, before it `e` bytes (the terminator of a string) and the data; `errN`: the size
reported when the data is not all there -/
def sizedBody {α : Type} (e : Nat) (errN : Bytes → Nat) (val : Bytes → α) (x : Bytes) : Res (α × Nat) :=
  if (decodeSize x).2 < 0 then .err .data 1 else
  if x.length < (decodeSize x).2.toNat + (decodeSize x).1 + e then .err .data (errN x) else
  .ok (val x, 1 + (decodeSize x).2.toNat + (decodeSize x).1 + e)

def sizedData (e : Nat) (x : Bytes) : Bytes :=
  lastN (decodeSize x).1 (dropLastN ((decodeSize x).2.toNat + e) x)

theorem sizedBody_good {α : Type} (e : Nat) {errN : Bytes → Nat} {val : Bytes → α}
    (he : ∀ x, errN x ≤ x.length + 1)
    (hv : ∀ q p x, decodeSize (p ++ x) = decodeSize (q ++ x) →
      (decodeSize (q ++ x)).2.toNat + (decodeSize (q ++ x)).1 + e ≤ x.length → val (p ++ x) = val (q ++ x)) :
    GoodBody (.sized e) (sizedBody e errN val) where
  safe x := by
    have := he x
    simp only [sizedBody, SafeN_ite_err, SafeN_ok]
    omega
  loc q p x v h := by
    simp only [sizedBody, ite_err_eq_ok, Res.ok.injEq, Prod.mk.injEq] at h
    obtain ⟨hm, hd, rfl, hn⟩ := h
    have e1 := decodeSize_append q p x hm (by omega)
    rw [sizedBody, e1, if_neg hm, if_neg (by rw [List.length_append]; omega), hn, hv q p x e1 (by omega)]
  size x v n h := by
    simp only [sizedBody, ite_err_eq_ok, Res.ok.injEq, Prod.mk.injEq] at h
    obtain ⟨hm, hd, -, rfl⟩ := h
    rw [Layout.size, if_neg hm, if_neg (by omega)]

theorem sizedData_append (e : Nat) (q p x : Bytes) (h : decodeSize (p ++ x) = decodeSize (q ++ x))
    (hx : (decodeSize (q ++ x)).2.toNat + (decodeSize (q ++ x)).1 + e ≤ x.length) :
    sizedData e (p ++ x) = sizedData e (q ++ x) := by
  rw [sizedData, sizedData, h, window_append p x (by omega), window_append q x (by omega)]

theorem decodeBytes_snoc (x : Bytes) (t : UInt8) :
    decodeBytes (x ++ [t]) = if t ≠ tBytes then .err .type 0 else sizedBody 0 (fun _ => 0) (sizedData 0) x := by
  have := reader_decodeSize.le x
  have e : (x.length - (decodeSize x).2.toNat < (decodeSize x).1) =
      (x.length < (decodeSize x).2.toNat + (decodeSize x).1) := propext (by omega)
  simp only [decodeBytes, sizedBody, sizedData, snoc_length_ne, decodeType_snoc, ↓reduceIte, take_length_sub,
    dropLastN_one_snoc, window_snoc]
  simp only [List.length_append, List.length_singleton, Nat.add_sub_cancel, Nat.add_zero, e]

theorem decodeBytes_good : GoodDec decodeBytes :=
  .of_bodies (Nat.le_refl 0) decodeBytes_snoc fun _ =>
    .code (by decide) (sizedBody_good 0 (fun _ => Nat.zero_le _) (sizedData_append 0))

/-- DecodeString, data not all there: reports 0 when even the terminator is missing -/
def stringErrN (x : Bytes) : Nat :=
  if x.length < (decodeSize x).2.toNat + 1 then 0 else 1 + (decodeSize x).2.toNat + 1

theorem decodeString_snoc (x : Bytes) (t : UInt8) :
    decodeString (x ++ [t]) = if t ≠ tString then .err .type 0 else sizedBody 1 stringErrN (sizedData 1) x := by
  simp only [decodeString, sizedBody, sizedData, stringErrN, snoc_length_ne, decodeType_snoc, ↓reduceIte,
    take_length_sub, dropLastN_one_snoc, window_snoc]
  simp only [List.length_append, List.length_singleton, Nat.add_sub_cancel]
  generalize decodeSize x = r
  by_cases h1 : x.length < r.2.toNat + 1
  · simp only [h1, ↓reduceIte, if_pos (show x.length < r.2.toNat + r.1 + 1 by omega)]
  · by_cases h2 : x.length - (r.2.toNat + 1) < r.1
    · simp only [h1, h2, ↓reduceIte, if_pos (show x.length < r.2.toNat + r.1 + 1 by omega)]
    · simp only [h1, h2, ↓reduceIte, if_neg (show ¬ x.length < r.2.toNat + r.1 + 1 by omega),
        show 1 + r.2.toNat + 1 + r.1 = 1 + r.2.toNat + r.1 + 1 by omega]

theorem decodeString_good : GoodDec decodeString :=
  .of_bodies (Nat.le_refl 0) decodeString_snoc fun _ =>
    .code (by decide) (sizedBody_good 1 (fun x => by unfold stringErrN; split <;> omega) (sizedData_append 1))

theorem decodeStruct_snoc (x : Bytes) (t : UInt8) :
    decodeStruct (x ++ [t]) =
      if t ≠ tStruct then .err .type 0 else sizedBody 0 (fun _ => 0) (fun y => (decodeSize y).1) x := by
  have e : (x.length + 1 < 1 + (decodeSize x).2.toNat + (decodeSize x).1) =
      (x.length < (decodeSize x).2.toNat + (decodeSize x).1) := propext (by omega)
  simp only [decodeStruct, sizedBody, snoc_length_ne, decodeType_snoc, ↓reduceIte, take_length_sub,
    dropLastN_one_snoc]
  simp only [List.length_append, List.length_singleton, Nat.add_zero, e]

theorem decodeStruct_good : GoodDec decodeStruct :=
  .of_bodies (Nat.le_refl 0) decodeStruct_snoc fun _ =>
    .code (by decide) (sizedBody_good 0 (fun _ => Nat.zero_le _) fun _ _ _ h _ => by rw [h])

/-! ### list and message tables -/

/-- `decodeTable` behind the type byte: table-size varint, before it data-size varint, table, data -/
def tableBody (isBig : Bool) (es : Nat) (x : Bytes) : Res (Table × Nat) :=
  let r1 := decodeSize x
  let r2 := decodeSize (dropLastN r1.2.toNat x)
  let rest := x.length - r1.2.toNat - r2.2.toNat
  let hdr := 1 + r1.2.toNat + r2.2.toNat
  if r1.2 < 0 then .err .data 1 else
  if r2.2 < 0 then .err .data (1 + r1.2.toNat) else
  if rest < r1.1 then .err .data hdr else
  if r1.1 % es ≠ 0 then .err .data hdr else
  if rest < r1.1 + r2.1 then .err .data (hdr + r1.1) else
  .ok (⟨lastN r1.1 (dropLastN (r1.2.toNat + r2.2.toNat) x), r2.1, isBig⟩, hdr + r1.1 + r2.1)

theorem decodeTable_snoc (small big : UInt8) (esS esB : Nat) (x : Bytes) (t : UInt8) :
    decodeTable small big esS esB (x ++ [t]) =
      if t ≠ small ∧ t ≠ big then .err .type 0 else tableBody (t == big) (if t == big then esB else esS) x := by
  simp only [decodeTable, tableBody, snoc_length_ne, decodeType_snoc, ↓reduceIte, take_length_sub,
    dropLastN_one_snoc]
  simp only [List.length_append, List.length_singleton, Nat.add_sub_cancel, take_snoc_sub, window_snoc2]

theorem tableSizes_le (x : Bytes) : ∃ k1 k2, (decodeSize x).2.toNat = k1 ∧
    (decodeSize (dropLastN k1 x)).2.toNat = k2 ∧ k1 + k2 ≤ x.length := by
  have h1 := reader_decodeSize.le x
  have h2 := reader_decodeSize.le (dropLastN (decodeSize x).2.toNat x)
  rw [dropLastN_length] at h2
  exact ⟨_, _, rfl, rfl, by omega⟩

theorem tableBody_good (isBig : Bool) (es : Nat) : GoodBody .table (tableBody isBig es) where
  safe x := by
    obtain ⟨k1, k2, e1, e2, hk⟩ := tableSizes_le x
    simp only [tableBody, e1, e2, SafeN_ite_err, SafeN_ok]
    omega
  loc q p x T h := by
    obtain ⟨k1, k2, f1, f2, -⟩ := tableSizes_le (q ++ x)
    simp only [tableBody, f1, f2, ite_err_eq_ok, Res.ok.injEq, Prod.mk.injEq, List.length_append] at h
    obtain ⟨n1, n2, c1, c2, c3, rfl, hn⟩ := h
    -- both varints and the table lie within `x`, so `q` can be exchanged for `p` step by step
    have m1 : k1 ≤ x.length := by omega
    have e1 := decodeSize_append q p x n1 (by omega)
    rw [dropLastN_append_le q x _ m1] at f2 n2 c3 hn ⊢
    have e2 := decodeSize_append q p _ n2 (by rw [dropLastN_length]; omega)
    simp only [tableBody, e1, f1, dropLastN_append_le p x _ m1, e2, f2, n1, n2, c2, ↓reduceIte, List.length_append]
    rw [if_neg (by omega), if_neg (by omega), hn,
      window_append p x (by omega), window_append q x (by omega)]
  size x T n h := by
    obtain ⟨k1, k2, e1, e2, hk⟩ := tableSizes_le x
    simp only [tableBody, e1, e2, ite_err_eq_ok, Res.ok.injEq, Prod.mk.injEq] at h
    obtain ⟨m1, m2, -, -, c3, -, rfl⟩ := h
    simp only [Layout.size, e1, e2]
    rw [if_neg m1, if_neg m2, if_neg (by omega)]
    congr 1; omega

theorem tableBody_ok {isBig : Bool} {es : Nat} (x : Bytes) (T : Table) (n : Nat)
    (h : tableBody isBig es x = .ok (T, n)) : n ≤ x.length + 1 ∧ T.data + T.table.length + 3 ≤ n := by
  have hs := (tableBody_good isBig es).safe x
  rw [h] at hs
  simp only [tableBody, ite_err_eq_ok, Res.ok.injEq, Prod.mk.injEq] at h
  obtain ⟨m1, m2, c1, -, -, rfl, rfl⟩ := h
  have p1 := decodeSize_pos m1
  have p2 := decodeSize_pos m2
  refine ⟨hs, ?_⟩
  simp only [lastN_length]
  omega

theorem decodeTable_good {small big : UInt8} {esS esB : Nat} (hc : ∀ t ∈ [small, big], layout t = some .table) :
    GoodDec (decodeTable small big esS esB) :=
  .of_bodies (Nat.le_refl 0) (decodeTable_snoc small big esS esB) fun t =>
    .ite (fun _ => .reject .type fun _ => rfl) fun h =>
      .good (hc t (by simpa using Decidable.or_iff_not_not_and_not.mpr h)) (tableBody_good _ _)

theorem decodeListTable_good : GoodDec decodeListTable := decodeTable_good (by decide)
theorem decodeMessageTable_good : GoodDec decodeMessageTable := decodeTable_good (by decide)

end SpecVerif
