/-
The binary search of format.MessageTable (offset_small / offset_big) on a table sorted by tag returns the offset
stored under the tag, or there is no entry with it.  The bytes are seen through `TableView`, so the entry
widths do not enter the argument.
-/
import SpecVerif.Lemmas.Container
namespace SpecVerif
open Pinned

/-- A serialized message table as the reader addresses it: entry `i` holds the pair `l[i]`. -/
structure TableView (tb : Bytes) (es tw : Nat) (l : List (Nat × Nat)) : Prop where
  tagAt : ∀ i (h : i < l.length), readBE tb (i * es) tw = some l[i].1
  offAt : ∀ i (h : i < l.length), readBE tb (i * es + tw) (es - tw) = some l[i].2

def TagsSorted (l : List (Nat × Nat)) : Prop := List.Pairwise (fun a b => a.1 < b.1) l

/-- the loop invariant: everything left of `left` is smaller, everything right of `right` larger -/
theorem bsearch_spec (tb : Bytes) (es tw tag : Nat) (l : List (Nat × Nat))
    (V : TableView tb es tw l) (S : TagsSorted l) :
    ∀ (fuel : Nat) (left right : Int), 0 ≤ left → right < l.length → left ≤ right + 1 →
      right - left + 2 ≤ fuel →
      (∀ i (h : i < l.length), (i : Int) < left → l[i].1 < tag) →
      (∀ i (h : i < l.length), right < (i : Int) → tag < l[i].1) →
      (∃ f ∈ l, f.1 = tag ∧ bsearch tb es tw tag fuel left right = .ok (some f.2)) ∨
      ((∀ f ∈ l, f.1 ≠ tag) ∧ bsearch tb es tw tag fuel left right = .ok none) := by
  have S := List.pairwise_iff_getElem.mp S
  intro fuel
  induction fuel with
  | zero => intro left right h0 h1 h2 h3; omega
  | succ fuel ih =>
    intro left right h0 h1 h2 h3 hL hR
    unfold bsearch
    by_cases c : left > right
    · right
      simp only [c, ↓reduceIte, and_true]
      intro f hf heq
      obtain ⟨i, hi, rfl⟩ := List.getElem_of_mem hf
      by_cases c2 : (i : Int) < left
      · have := hL i hi c2; omega
      · have := hR i hi (by omega); omega
    · simp only [c, ↓reduceIte]
      -- the probed index `mid` lies between `left` and `right`
      have hm : left ≤ ((left + right) / 2).toNat ∧ (((left + right) / 2).toNat : Int) ≤ right := by omega
      generalize ((left + right) / 2).toNat = mid at hm ⊢
      have hmid : mid < l.length := by omega
      rw [V.tagAt _ hmid]
      by_cases c1 : l[mid].1 < tag
      · simp only [c1, ↓reduceIte]
        apply ih _ _ (by omega) h1 (by omega) (by omega) _ hR
        intro i hi hlt
        by_cases ce : i = mid
        · subst ce; exact c1
        · have := S i _ hi hmid (by omega)
          omega
      · simp only [c1, ↓reduceIte]
        by_cases c2 : l[mid].1 > tag
        · simp only [c2, ↓reduceIte]
          apply ih _ _ h0 (by omega) (by omega) (by omega) hL
          intro i hi hgt
          by_cases ce : i = mid
          · subst ce; exact c2
          · have := S _ i hmid hi (by omega)
            omega
        · simp only [c2, ↓reduceIte]
          exact .inl ⟨_, List.getElem_mem hmid, by omega, by rw [V.offAt _ hmid]⟩

end SpecVerif
