/-
The accessors on tables opened from arbitrary bytes (C02): a table that `decodeTable` returns has room in
the value it came with (`Table.Room`), so it is indexed, searched and sliced without a panic, and children
are strictly shorter than the container (why the parser's fuel suffices).
-/
import SpecVerif.Lemmas.Decoders
import SpecVerif.Wire.Types
namespace SpecVerif
open Pinned

theorem suffix_ok (b : Bytes) (n : Nat) (h : n ≤ b.length) : suffix b n = .ok (lastN n b) := by
  unfold suffix; simp; omega

theorem suffix_append (q s : Bytes) : suffix (q ++ s) s.length = .ok s := by
  rw [suffix_ok _ _ (by simp), lastN_append]

theorem readBE_some (t : Bytes) (off k : Nat) (h : off + k ≤ t.length) :
    ∃ v, readBE t off k = some v := by
  unfold readBE; simp [h]

theorem slice?_some (b : Bytes) (lo hi : Nat) (h1 : lo ≤ hi) (h2 : hi ≤ b.length) :
    slice? b lo hi = some ((b.take hi).drop lo) := by
  unfold slice?; simp [h1, h2]

/-- what `decodeTable` establishes of a table inside a value of `len` bytes; 3 = the least header;
`Table.empty`, returned for the empty buffer with size 0, has no room and no entries -/
def Table.Room (t : Table) (len : Nat) : Prop := t.table.length = 0 ∨ t.data + t.table.length + 3 ≤ len

theorem room_of_decodeTable {small big : UInt8} {esS esB : Nat} (b : Bytes) (t : Table) (size : Nat)
    (h : decodeTable small big esS esB b = .ok (t, size)) :
    size ≤ b.length ∧ t.Room (lastN size b).length := by
  rcases snoc_cases b with rfl | ⟨x, c, rfl⟩
  · cases h; exact ⟨Nat.le_refl 0, Or.inl rfl⟩
  · rw [decodeTable_snoc] at h
    split at h
    · cases h
    · obtain ⟨h1, h2⟩ := tableBody_ok x t size h
      have hle : size ≤ (x ++ [c]).length := by simpa using h1
      rw [lastN_length, Nat.min_eq_left hle]
      exact ⟨hle, Or.inr h2⟩

theorem entry_in_table {len es i : Nat} (h : i < len / es) : i * es + es ≤ len := by
  rw [← Nat.succ_mul]
  exact Nat.mul_le_of_le_div es _ len h

/-! ### lists -/

theorem openListErr_spec (b : Bytes) :
    (∃ l, openListErr b = .ok l ∧ l.table.Room l.bytes.length ∧ l.bytes.length ≤ b.length) ∨
      (∃ e, openListErr b = .err e 0) := by
  unfold openListErr
  have hs := decodeListTable_good.safe b
  cases hd : decodeListTable b with
  | ok a =>
    have ⟨hle, wf⟩ := room_of_decodeTable b a.1 a.2 hd
    refine Or.inl ⟨⟨a.1, lastN a.2 b⟩, ?_, wf, ?_⟩
    · simp only [suffix_ok b a.2 hle]; rfl
    · simp; omega
  | err e k => exact Or.inr ⟨e, rfl⟩
  | panic => rw [hd] at hs; exact hs.elim

theorem listOffset_ok (t : Table) (i : Nat) (hi : i < t.listLen) : ∃ s e, t.listOffset i = .ok (some (s, e)) := by
  unfold Table.listLen at hi
  unfold Table.listOffset
  generalize (if t.big then listElemBig else listElemSmall) = es at hi ⊢
  have hin := entry_in_table hi
  simp only [show ¬ i ≥ t.table.length / es by omega, ↓reduceIte]
  obtain ⟨e, he⟩ := readBE_some t.table (i * es) es hin
  by_cases h0 : i > 0
  · obtain ⟨s, hs⟩ := readBE_some t.table (i * es - es) es (by omega)
    simp [h0, hs, he]
  · simp [h0, he]

theorem getBytes_ok (l : ListV) (wf : l.table.Room l.bytes.length) (i : Nat) (hi : i < l.len) :
    ∃ v, l.getBytes i = .ok v ∧ v.length + 3 ≤ l.bytes.length := by
  obtain ⟨s, e, h⟩ := listOffset_ok l.table i hi
  have hpos : l.table.table.length ≠ 0 := by
    unfold ListV.len Table.listLen at hi
    intro h0; simp [h0] at hi
  have hr := wf.resolve_left hpos
  unfold ListV.getBytes
  simp only [h]
  by_cases c : e > l.table.data ∨ s > e
  · simp only [c, ↓reduceIte]
    exact ⟨[], rfl, by simp; omega⟩
  · simp only [c, ↓reduceIte]
    rw [slice?_some l.bytes s e (by omega) (by omega)]
    exact ⟨_, rfl, by simp; omega⟩

/-! ### messages -/

/-- The binary search terminates within its fuel and never reads outside the table. -/
theorem bsearch_ok (tb : Bytes) (es tw tag n : Nat) (htw : tw ≤ es) (hn : n * es ≤ tb.length) :
    ∀ (fuel : Nat) (left right : Int), 0 ≤ left → right < n → left ≤ right + 1 →
      right - left + 2 ≤ fuel → ∃ r, bsearch tb es tw tag fuel left right = .ok r := by
  intro fuel
  induction fuel with
  | zero => omega
  | succ fuel ih =>
    intro left right h0 h1 h2 h3
    unfold bsearch
    by_cases c : left > right
    · simp [c]
    · -- the middle index `m` lies between `left` and `right`, so its entry is inside the table
      obtain ⟨m, hm, hl, hr⟩ : ∃ m : Nat, (left + right) / 2 = (m : Int) ∧ left ≤ m ∧ (m : Int) ≤ right :=
        ⟨((left + right) / 2).toNat, by omega, by omega, by omega⟩
      have hin : m * es + es ≤ n * es := Nat.succ_mul m es ▸ Nat.mul_le_mul_right es (by omega)
      obtain ⟨cur, hc⟩ := readBE_some tb (m * es) tw (by omega)
      simp only [c, ↓reduceIte, hm, Int.toNat_natCast, hc]
      by_cases c1 : cur < tag
      · simp only [c1, ↓reduceIte]
        exact ih _ _ (by omega) h1 (by omega) (by omega)
      · simp only [c1, ↓reduceIte]
        by_cases c2 : cur > tag
        · simp only [c2, ↓reduceIte]
          exact ih _ _ h0 (by omega) (by omega) (by omega)
        · simp only [c2, ↓reduceIte]
          obtain ⟨o, ho⟩ := readBE_some tb (m * es + tw) (es - tw) (by omega)
          simp [ho]

theorem tagSize_le (t : Table) : t.tagSize ≤ t.entrySize := by
  unfold Table.entrySize Table.tagSize msgFieldBig msgFieldSmall; split <;> omega

theorem entrySize_pos (t : Table) : 0 < t.entrySize := by
  unfold Table.entrySize msgFieldBig msgFieldSmall; split <;> omega

theorem msgOffset_ok (m : MsgV) (tag : Nat) : ∃ r, m.table.msgOffset tag = .ok r := by
  unfold Table.msgOffset
  by_cases c : m.table.table.length < m.table.entrySize
  · simp [c]
  · simp only [c, ↓reduceIte]
    have hpos : 0 < m.table.table.length / m.table.entrySize := Nat.div_pos (by omega) (entrySize_pos m.table)
    exact bsearch_ok _ _ _ tag _ (tagSize_le _) (Nat.div_mul_le_self _ _) _ 0 _ (by omega) (by omega) (by omega)
      (by omega)

theorem openMessageErr_spec (b : Bytes) :
    (∃ m, openMessageErr b = .ok m ∧ m.table.Room m.bytes.length ∧ m.bytes.length ≤ b.length) ∨
      (∃ e, openMessageErr b = .err e 0) := by
  unfold openMessageErr
  have hs := decodeMessageTable_good.safe b
  cases hd : decodeMessageTable b with
  | ok a =>
    have ⟨hle, wf⟩ := room_of_decodeTable b a.1 a.2 hd
    refine Or.inl ⟨⟨a.1, lastN a.2 b⟩, ?_, wf, ?_⟩
    · simp only [suffix_ok b a.2 hle]; rfl
    · simp; omega
  | err e k => exact Or.inr ⟨e, rfl⟩
  | panic => rw [hd] at hs; exact hs.elim

/-- `fieldRaw` and `fieldAtRaw` after the lookup `r` of the end offset -/
theorem rawTo_ok (m : MsgV) (wf : m.table.Room m.bytes.length) (r : Res (Option Nat))
    (hr : ∃ o, r = .ok o ∧ (o ≠ none → m.table.table.length ≠ 0)) :
    ∃ v, (match r with
          | .panic => .panic
          | .err e n => .err e n
          | .ok none => .ok []
          | .ok (some e) =>
            if e > m.table.data then .ok [] else
            match slice? m.bytes 0 e with
            | some v => .ok v
            | none => .panic) = Res.ok v ∧ (v.length = 0 ∨ v.length + 3 ≤ m.bytes.length) := by
  obtain ⟨o, rfl, hne⟩ := hr
  cases o with
  | none => exact ⟨[], rfl, Or.inl rfl⟩
  | some e =>
    by_cases c : e > m.table.data
    · simp only [c, ↓reduceIte]; exact ⟨[], rfl, Or.inl rfl⟩
    · have := wf.resolve_left (hne (by simp))
      simp only [c, ↓reduceIte, slice?_some m.bytes 0 e (by omega) (by omega)]
      exact ⟨_, rfl, Or.inr (by simp; omega)⟩

theorem fieldRaw_ok (m : MsgV) (wf : m.table.Room m.bytes.length) (tag : Nat) :
    ∃ v, m.fieldRaw tag = .ok v ∧ (v.length = 0 ∨ v.length + 3 ≤ m.bytes.length) := by
  obtain ⟨o, hr⟩ := msgOffset_ok m tag
  exact rawTo_ok m wf _ ⟨o, hr, fun ho h0 => by
    simp [Table.msgOffset, h0, entrySize_pos m.table] at hr; exact ho hr.symm⟩

theorem hasField_ok (m : MsgV) (tag : Nat) : ∃ r, m.hasField tag = .ok r := by
  obtain ⟨r, hr⟩ := msgOffset_ok m tag
  unfold MsgV.hasField
  simp only [hr]
  cases r <;> simp

theorem msgOffsetByIndex_ok (t : Table) (i : Nat) : ∃ r, t.msgOffsetByIndex i = .ok r := by
  unfold Table.msgOffsetByIndex
  by_cases c : i ≥ t.msgLen
  · simp [c]
  · have hin := entry_in_table (Nat.lt_of_not_ge c)
    have := tagSize_le t
    obtain ⟨o, ho⟩ := readBE_some t.table (i * t.entrySize + t.tagSize) (t.entrySize - t.tagSize) (by omega)
    simp [c, ho]

theorem msgFieldEntry_ok (t : Table) (i : Nat) : ∃ r, t.msgFieldEntry i = .ok r := by
  unfold Table.msgFieldEntry
  by_cases c : i ≥ t.msgLen
  · simp [c]
  · have hin := entry_in_table (Nat.lt_of_not_ge c)
    have := tagSize_le t
    obtain ⟨g, hg⟩ := readBE_some t.table (i * t.entrySize) t.tagSize (by omega)
    obtain ⟨o, ho⟩ := readBE_some t.table (i * t.entrySize + t.tagSize) (t.entrySize - t.tagSize) (by omega)
    simp [c, hg, ho]

theorem fieldAtRaw_ok (m : MsgV) (wf : m.table.Room m.bytes.length) (i : Nat) :
    ∃ v, m.fieldAtRaw i = .ok v ∧ (v.length = 0 ∨ v.length + 3 ≤ m.bytes.length) := by
  obtain ⟨o, hr⟩ := msgOffsetByIndex_ok m.table i
  exact rawTo_ok m wf _ ⟨o, hr, fun ho h0 => by
    simp [Table.msgOffsetByIndex, Table.msgLen, h0] at hr; exact ho hr.symm⟩

theorem tagAt_ok (m : MsgV) (i : Nat) : ∃ r, m.tagAt i = .ok r := by
  obtain ⟨r, hr⟩ := msgFieldEntry_ok m.table i
  unfold MsgV.tagAt
  simp [hr, bind, Res.bind, pure]

end SpecVerif
