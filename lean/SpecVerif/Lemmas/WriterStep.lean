/-
What an API call does to the writer: `step` answers `badop`, or runs the operation behind the call
(`Call.op`) on the session's writer or — through a dead handle — on the closed writer, whose state never
changes; the rest of `step` (handles, the recorded result) leaves the writer alone. So a property of
writers that every operation keeps is kept by every call (`step_inv`).
-/
import SpecVerif.Writer.Api
namespace SpecVerif.Writer
open SpecVerif

theorem insertAt_le {fls : List (Nat × Nat)} (f : Nat × Nat) {k : Nat} (h : k ≤ fls.length) :
    insertAt fls k f = some (fls.take k ++ insertField f (fls.drop k)) := by
  simp [insertAt, Nat.not_lt.mpr h]

/-- the writer operation behind a call -/
def Call.op (idx : Nat) : Call → W → W × Out
  | .msg, w => (beginMessage w, .ok)
  | .list, w => (beginList w, .ok)
  | .v enc, w => writeValue w idx enc
  | .f _ tag enc, w =>
    let (w1, o) := writeValue w idx enc
    match o with
    | .ok => field w1 idx tag
    | o => (w1, o)
  | .fmsg _ tag, w => (beginMessage (beginField w idx tag), .ok)
  | .flist _ tag, w => (beginList (beginField w idx tag), .ok)
  | .has _ tag, w => (w, hasField w tag)
  | .copy _ src, w => copyMsg w idx src
  | .e _ enc, w =>
    let (w1, o) := writeValue w idx enc
    match o with
    | .ok => element w1 idx
    | o => (w1, o)
  | .emsg _, w => (beginMessage (beginElement w idx), .ok)
  | .elist _, w => (beginList (beginElement w idx), .ok)
  | .len _, w => (w, listLen w)
  | .vbuild, w | .end_ _, w | .build _, w => Writer.end_ w idx
  | .fwfail _, w | .ewfail _, w => writeFail w idx
  | .err, w => (w, match w.err with | some x => .err x | none => .ok)
  | .reset, w => Writer.reset w
  | .free, w => Writer.free w
  | .bad, w => (w, .badop)

/-- `End` answers `ok` where the writer's `end` returns the bytes -/
def Call.out : Call → Out → Out
  | .end_ _, .built _ => .ok
  | _, o => o

theorem recordBuilt_w (s : Sess) (o : Out) : (recordBuilt s o).w = s.w := by
  unfold recordBuilt; split <;> rfl

theorem onHandle_handles (s : Sess) (dead : Bool) (op : W → W × Out) :
    (onHandle s dead op).1.handles = s.handles := by
  cases dead <;> rfl

theorem step_w (s : Sess) (idx : Nat) (c : Call) :
    ((step s idx c).1.w = s.w ∧ (step s idx c).2 = .badop) ∨
    ((step s idx c).1.w = s.w ∧ (step s idx c).2 = c.out (c.op idx closedW).2) ∨
    ((step s idx c).1.w = (c.op idx s.w).1 ∧ (step s idx c).2 = c.out (c.op idx s.w).2) := by
  have onH : ∀ (dead : Bool) (op : W → W × Out),
      ((onHandle s dead op).1.w = s.w ∧ (onHandle s dead op).2 = (op closedW).2) ∨
      ((onHandle s dead op).1.w = (op s.w).1 ∧ (onHandle s dead op).2 = (op s.w).2) := by
    intro dead op; cases dead
    · exact .inr ⟨rfl, rfl⟩
    · exact .inl ⟨rfl, rfl⟩
  cases c with
  | msg | list | v | err | reset | free => exact .inr (.inr ⟨rfl, rfl⟩)
  | vbuild => exact .inr (.inr ⟨recordBuilt_w _ _, rfl⟩)
  | bad => exact .inl ⟨rfl, rfl⟩
  | f h tag enc | copy h src | e h enc | fwfail h | ewfail h =>
    simp only [step]
    split
    · exact .inl ⟨rfl, rfl⟩
    · exact .inr (onH _ _)
  | fmsg h tag | flist h tag | emsg h | elist h | has h tag | len h =>
    simp only [step]
    split
    · exact .inl ⟨rfl, rfl⟩
    · split
      · exact .inr (.inl ⟨rfl, rfl⟩)
      · exact .inr (.inr ⟨rfl, rfl⟩)
  | end_ h =>
    simp only [step]
    split
    · exact .inl ⟨rfl, rfl⟩
    · rename_i hd _
      have hw : ∀ s1 : Sess, (if hd.kind = .M then killHandle s1 h else s1).w = s1.w := by
        intro s1; split <;> rfl
      have ho : ∀ o : Out, (match o with | .built _ => Out.ok | o => o) = (Call.end_ h).out o := by
        intro o; cases o <;> rfl
      rcases onH hd.dead (fun w => end_ w idx) with ⟨h1, h2⟩ | ⟨h1, h2⟩
      · exact .inr (.inl ⟨(hw _).trans h1, (ho _).trans (congrArg _ h2)⟩)
      · exact .inr (.inr ⟨(hw _).trans h1, (ho _).trans (congrArg _ h2)⟩)
  | build h =>
    simp only [step]
    split
    · exact .inl ⟨rfl, rfl⟩
    · rename_i hd _
      have hw : ∀ (s1 : Sess) (o : Out), (recordBuilt (if hd.kind = .M then killHandle s1 h else s1) o).w = s1.w := by
        intro s1 o; rw [recordBuilt_w]; split <;> rfl
      rcases onH hd.dead (fun w => end_ w idx) with ⟨h1, h2⟩ | ⟨h1, h2⟩
      · exact .inr (.inl ⟨(hw _ _).trans h1, h2⟩)
      · exact .inr (.inr ⟨(hw _ _).trans h1, h2⟩)

theorem step_inv {P : W → Prop} {Q : Out → Prop} (s : Sess) (idx : Nat) (c : Call) (hs : P s.w)
    (hop : ∀ w, P w → P (c.op idx w).1 ∧ Q (c.op idx w).2) (hdead : Q (c.op idx closedW).2)
    (hbad : Q .badop) (hout : ∀ o, Q o → Q (c.out o)) :
    P (step s idx c).1.w ∧ Q (step s idx c).2 := by
  rcases step_w s idx c with ⟨h1, h2⟩ | ⟨h1, h2⟩ | ⟨h1, h2⟩
  · rw [h1, h2]; exact ⟨hs, hbad⟩
  · rw [h1, h2]; exact ⟨hs, hout _ hdead⟩
  · rw [h1, h2]; exact ⟨(hop _ hs).1, hout _ (hop _ hs).2⟩

end SpecVerif.Writer
