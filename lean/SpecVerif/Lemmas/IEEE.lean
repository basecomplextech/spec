/-
Laws of the bit-level IEEE conversions (Wire/IEEE.lean): `narrow ∘ widen` is the identity on float32 patterns
except signalling NaNs, which come back quieted; a widened float32 never trips DecodeFloat32's range test.
Both conversions are evaluated on sign, exponent and mantissa fields; the significand of a widened float32
ends in zeros, so `rne` rounds nothing away.
-/
import SpecVerif.Wire.IEEE
namespace SpecVerif.IEEE

def bits64 (s E M : Nat) : Nat := s * 2 ^ 63 + E * 2 ^ 52 + M

theorem fields64 (s E M : Nat) (hs : s < 2) (hE : E < 2048) (hM : M < 2 ^ 52) :
    bits64 s E M / 2 ^ 63 % 2 = s ∧ bits64 s E M / 2 ^ 52 % 2048 = E ∧ bits64 s E M % 2 ^ 52 = M := by
  unfold bits64
  omega

theorem mag64 (s E M : Nat) (hE : E < 2048) (hM : M < 2 ^ 52) :
    bits64 s E M % 2 ^ 63 = E * 2 ^ 52 + M := by
  unfold bits64; omega

theorem rne_exact (q shift : Nat) : rne (q * 2 ^ shift) shift = q := by
  unfold rne
  have hp : 0 < 2 ^ shift := Nat.two_pow_pos shift
  have hq : q * 2 ^ shift / 2 ^ shift = q := Nat.mul_div_cancel q hp
  have hr : q * 2 ^ shift % 2 ^ shift = 0 := Nat.mul_mod_left _ _
  have hh : 0 < 2 ^ (shift - 1) := Nat.two_pow_pos _
  simp only [hq, hr]
  have c : ¬ (0 > 2 ^ (shift - 1) ∨ 0 = 2 ^ (shift - 1) ∧ q % 2 = 1) := by omega
  simp only [c, ↓reduceIte]

/-- a signalling NaN of binary32: exponent all ones, mantissa non-zero with the top bit clear -/
def isSNaN32 (x : Nat) : Prop := x / 2 ^ 23 % 256 = 255 ∧ 0 < x % 2 ^ 23 ∧ x % 2 ^ 23 < 2 ^ 22

instance (x : Nat) : Decidable (isSNaN32 x) := by unfold isSNaN32; infer_instance

theorem narrow_fields (s E M : Nat) (hs : s < 2) (hE : E < 2048) (hM : M < 2 ^ 52) :
    narrow (bits64 s E M) =
      if E = 2047 then
        s * 2 ^ 31 + 255 * 2 ^ 23 +
          (if M = 0 then 0 else (if M / 2 ^ 29 < 2 ^ 22 then M / 2 ^ 29 + 2 ^ 22 else M / 2 ^ 29))
      else if E = 0 then s * 2 ^ 31
      else s * 2 ^ 31 + min (255 * 2 ^ 23)
        (if E ≥ 897 then (E - 897) * 2 ^ 23 + rne (2 ^ 52 + M) 29 else rne (2 ^ 52 + M) (926 - E)) := by
  obtain ⟨h1, h2, h3⟩ := fields64 s E M hs hE hM
  simp only [narrow, h1, h2, h3, Nat.min_def]

/-- a subnormal mantissa `m` with leading bit `k`: normalised at bit 52 it fits the mantissa field, and with
the implicit bit it is `m` shifted -/
theorem subnormal_norm (m : Nat) (h0 : m ≠ 0) (hm : m < 2 ^ 23) :
    Nat.log2 m ≤ 22 ∧ (m - 2 ^ Nat.log2 m) * 2 ^ (52 - Nat.log2 m) < 2 ^ 52 ∧
      2 ^ 52 + (m - 2 ^ Nat.log2 m) * 2 ^ (52 - Nat.log2 m) = m * 2 ^ (52 - Nat.log2 m) := by
  have hk : Nat.log2 m < 23 := (Nat.log2_lt h0).mpr hm
  have hk1 : 2 ^ Nat.log2 m ≤ m := Nat.log2_self_le h0
  have hk2 : m < 2 ^ (Nat.log2 m + 1) := Nat.lt_log2_self
  generalize Nat.log2 m = k at hk hk1 hk2
  have hpow : 2 ^ k * 2 ^ (52 - k) = 2 ^ 52 := by rw [← Nat.pow_add]; congr 1; omega
  refine ⟨by omega, ?_, ?_⟩
  · rw [← hpow]
    apply Nat.mul_lt_mul_of_lt_of_le _ (Nat.le_refl _) (Nat.two_pow_pos _)
    omega
  · rw [← hpow, ← Nat.add_mul]; congr 1; omega

/-- `widen` by class: ±Inf, NaN (quiet bit 22 set), ±0, subnormal (normalised), normal -/
theorem widen_cases (x : Nat) (h : x < 2 ^ 32) :
    ∃ s e m, s < 2 ∧ e < 256 ∧ m < 2 ^ 23 ∧ x = s * 2 ^ 31 + e * 2 ^ 23 + m ∧
      (isSNaN32 x ↔ e = 255 ∧ 0 < m ∧ m < 2 ^ 22) ∧
      ((e = 255 ∧ m = 0 ∧ widen x = bits64 s 2047 0) ∨
       (e = 255 ∧ m ≠ 0 ∧ widen x = bits64 s 2047 ((m % 2 ^ 22 + 2 ^ 22) * 2 ^ 29)) ∨
       (e = 0 ∧ m = 0 ∧ widen x = bits64 s 0 0) ∨
       (e = 0 ∧ m ≠ 0 ∧
          widen x = bits64 s (Nat.log2 m + 874) ((m - 2 ^ Nat.log2 m) * 2 ^ (52 - Nat.log2 m))) ∨
       (e ≠ 255 ∧ e ≠ 0 ∧ widen x = bits64 s (e + 896) (m * 2 ^ 29))) := by
  have hm : x % 2 ^ 23 < 2 ^ 23 := by omega
  refine ⟨x / 2 ^ 31 % 2, x / 2 ^ 23 % 256, x % 2 ^ 23, by omega, by omega, hm, by omega, Iff.rfl, ?_⟩
  simp only [widen, bits64]
  generalize x / 2 ^ 23 % 256 = e
  generalize x % 2 ^ 23 = m at hm ⊢
  by_cases c1 : e = 255
  · by_cases c3 : m = 0
    · exact .inl ⟨c1, c3, by rw [if_pos c1, if_pos c3]⟩
    · exact .inr (.inl ⟨c1, c3, by rw [if_pos c1, if_neg c3]; split <;> omega⟩)
  by_cases c2 : e = 0
  · by_cases c3 : m = 0
    · exact .inr (.inr (.inl ⟨c2, c3, by rw [if_neg c1, if_pos c2, if_pos c3]; omega⟩))
    · exact .inr (.inr (.inr (.inl ⟨c2, c3, by rw [if_neg c1, if_pos c2, if_neg c3]⟩)))
  · exact .inr (.inr (.inr (.inr ⟨c1, c2, by rw [if_neg c1, if_neg c2]⟩)))

theorem narrow_widen_eq (x : Nat) (h : x < 2 ^ 32) :
    narrow (widen x) = if isSNaN32 x then x + 2 ^ 22 else x := by
  obtain ⟨s, e, m, hs, he, hm, hx, hsn, hw⟩ := widen_cases x h
  simp only [hsn]
  rcases hw with ⟨c1, c2, hw⟩ | ⟨c1, c2, hw⟩ | ⟨c1, c2, hw⟩ | ⟨c1, c2, hw⟩ | ⟨c1, c2, hw⟩ <;> rw [hw]
  · rw [narrow_fields s 2047 0 hs (by omega) (by omega), if_pos rfl, if_pos rfl, if_neg (by omega)]; omega
  · -- NaN: `narrow` takes the top 23 bits of the mantissa back, bit 22 stays set
    rw [narrow_fields s 2047 _ hs (by omega) (by omega), if_pos rfl, if_neg (by omega),
      Nat.mul_div_cancel _ (by omega), if_neg (by omega)]
    split <;> omega
  · rw [narrow_fields s 0 0 hs (by omega) (by omega), if_neg (by omega), if_pos rfl, if_neg (by omega)]; omega
  · -- subnormal: exponent field `k + 874 < 897`, `narrow` shifts the significand `m · 2^(52-k)` by `52 - k`
    obtain ⟨hk, hlt, hsig⟩ := subnormal_norm m c2 hm
    generalize Nat.log2 m = k at hk hlt hsig ⊢
    rw [narrow_fields s (k + 874) _ hs (by omega) hlt, if_neg (by omega), if_neg (by omega),
      if_neg (show ¬ k + 874 ≥ 897 by omega), hsig, show 926 - (k + 874) = 52 - k by omega, rne_exact,
      if_neg (by omega)]
    omega
  · -- normal: exponent field `e + 896 ≥ 897`, the significand `(2^23 + m) · 2^29` loses 29 zeros
    rw [narrow_fields s (e + 896) (m * 2 ^ 29) hs (by omega) (by omega), if_neg (by omega), if_neg (by omega),
      if_pos (show e + 896 ≥ 897 by omega), show 2 ^ 52 + m * 2 ^ 29 = (2 ^ 23 + m) * 2 ^ 29 by omega, rne_exact,
      if_neg (by omega)]
    omega

theorem narrow_widen (x : Nat) (h : x < 2 ^ 32) (hn : ¬ isSNaN32 x) : narrow (widen x) = x :=
  (narrow_widen_eq x h).trans (if_neg hn)

theorem narrow_widen_snan (x : Nat) (h : x < 2 ^ 32) (hn : isSNaN32 x) : narrow (widen x) = x + 2 ^ 22 :=
  (narrow_widen_eq x h).trans (if_pos hn)

/-- DecodeFloat32's overflow test: finite, with a magnitude above MaxFloat32 -/
theorem overflow_iff (y : Nat) :
    (isInf y = false ∧ (ltNegMax y = true ∨ gtMax y = true)) ↔
      maxF32 < y % 2 ^ 63 ∧ y % 2 ^ 63 < 2047 * 2 ^ 52 := by
  have hs : y / 2 ^ 63 % 2 = 0 ∨ y / 2 ^ 63 % 2 = 1 := by omega
  simp only [isInf, ltNegMax, gtMax, isNaN64]
  rcases hs with hs | hs <;> simp [hs] <;> omega

theorem widen_mag (x : Nat) (h : x < 2 ^ 32) :
    ¬ (maxF32 < widen x % 2 ^ 63 ∧ widen x % 2 ^ 63 < 2047 * 2 ^ 52) := by
  obtain ⟨s, e, m, hs, he, hm, -, -, hw⟩ := widen_cases x h
  rw [maxF32]
  rcases hw with ⟨c1, c2, hw⟩ | ⟨c1, c2, hw⟩ | ⟨c1, c2, hw⟩ | ⟨c1, c2, hw⟩ | ⟨c1, c2, hw⟩ <;> rw [hw]
  · rw [mag64 s 2047 0 (by omega) (by omega)]; omega
  · rw [mag64 s 2047 _ (by omega) (by omega)]; omega
  · rw [mag64 s 0 0 (by omega) (by omega)]; omega
  · obtain ⟨hk, hlt, -⟩ := subnormal_norm m c2 hm
    generalize Nat.log2 m = k at hk hlt ⊢
    rw [mag64 s (k + 874) _ (by omega) hlt]; omega
  · rw [mag64 s (e + 896) (m * 2 ^ 29) (by omega) (by omega)]; omega

/-- the comparisons of DecodeFloat32 never report an overflow for a widened float32 -/
theorem widen_in_range (x : Nat) (h : x < 2 ^ 32) :
    isInf (widen x) = true ∨ (ltNegMax (widen x) = false ∧ gtMax (widen x) = false) := by
  have h := mt (overflow_iff (widen x)).mp (widen_mag x h)
  by_cases hi : isInf (widen x) = true
  · exact .inl hi
  · have hi := Bool.eq_false_iff.mpr hi
    exact .inr ⟨Bool.eq_false_iff.mpr fun hl => h ⟨hi, .inl hl⟩, Bool.eq_false_iff.mpr fun hg => h ⟨hi, .inr hg⟩⟩

end SpecVerif.IEEE
