/-
Well-formed value trees (valid leaves, distinct tags below 2^16, sizes below the 32-bit limits) have
`Valid` layout bytes, so everything C01 proves about `Valid` bytes holds for what the writer builds.
-/
import SpecVerif.Lemmas.WriterProgram
import SpecVerif.Lemmas.Valid
namespace SpecVerif.Writer
open SpecVerif

mutual
/-- a tree the writer API accepts without error and the format can carry -/
def Node.OK : Node → Prop
  | .leaf b => Valid b
  | .list es => es.OK ∧ es.encs.flatten.length + 4 * es.encs.length < 2 ^ 32
  | .msg fs => fs.OK ∧ MsgWF fs.encs
def Nodes.OK : Nodes → Prop
  | .nil => True
  | .cons n ns => n.OK ∧ ns.OK
def Flds.OK : Flds → Prop
  | .nil => True
  | .cons _ n fs => n.OK ∧ fs.OK
end

mutual
theorem Node.valid : (n : Node) → n.OK → Valid n.enc
  | .leaf _, h => h
  | .list es, h => Valid.list es.encs (Nodes.valid es h.1) h.2
  | .msg fs, h => Valid.msg fs.encs (Flds.valid fs h.1) h.2
theorem Nodes.valid : (ns : Nodes) → ns.OK → ∀ e ∈ ns.encs, Valid e
  | .nil, _ => nofun
  | .cons n ns, h => List.forall_mem_cons.mpr ⟨Node.valid n h.1, Nodes.valid ns h.2⟩
theorem Flds.valid : (fs : Flds) → fs.OK → ∀ f ∈ fs.encs, Valid f.2
  | .nil, _ => nofun
  | .cons _ n fs, h => List.forall_mem_cons.mpr ⟨Node.valid n h.1, Flds.valid fs h.2⟩
end

end SpecVerif.Writer
