/-
Basic vocabulary of the wire model: byte strings, three-valued outcomes, big-endian helpers.
Core Lean only (no Mathlib) so that drivers can be linked as native executables.
-/
namespace SpecVerif

abbrev Bytes := List UInt8

/-- Error classes; the Go harness maps error texts to these by substring. -/
inductive Err where
  | data      -- "invalid data", "invalid table", "invalid data size", ...
  | type      -- "invalid type", "unsupported type"
  | overflow  -- "overflow"
  deriving DecidableEq, Repr, Inhabited

/-- Outcome of a Go call: normal return with a value, error return (with the size the Go function
reports next to the error), or a run-time panic (slice bounds, index, nil dereference). -/
inductive Res (α : Type) where
  | ok (a : α)
  | err (e : Err) (n : Nat)
  | panic
  deriving Repr, DecidableEq

namespace Res
def isPanic {α} : Res α → Bool
  | panic => true
  | _ => false

@[inline] def bind {α β} (r : Res α) (f : α → Res β) : Res β :=
  match r with
  | ok a => f a
  | err e n => err e n
  | panic => panic

instance : Monad Res where
  pure := Res.ok
  bind := Res.bind
end Res

/-- Big-endian value of a byte string. -/
def be (bs : Bytes) : Nat := bs.foldl (fun acc b => acc * 256 + b.toNat) 0

/-- `k` bytes, big-endian, of `v` (truncating like a Go integer conversion). -/
def toBE : Nat → Nat → Bytes
  | 0, _ => []
  | k+1, v => toBE k (v / 256) ++ [UInt8.ofNat (v % 256)]

/-- The last `n` bytes (all of them when there are fewer). -/
def lastN (n : Nat) (b : Bytes) : Bytes := b.drop (b.length - n)

/-- Everything but the last `n` bytes: Go's `b[:len(b)-n]` for `n ≤ len(b)`. -/
def dropLastN (n : Nat) (b : Bytes) : Bytes := b.take (b.length - n)

/-- Go slice expression `b[lo:hi]`; `none` = "slice bounds out of range" panic. -/
def slice? (b : Bytes) (lo hi : Nat) : Option Bytes :=
  if lo ≤ hi ∧ hi ≤ b.length then some ((b.take hi).drop lo) else none

@[simp] theorem toBE_length (k v : Nat) : (toBE k v).length = k := by
  induction k generalizing v with
  | zero => rfl
  | succ k ih => simp [toBE, ih]

theorem be_append_singleton (bs : Bytes) (x : UInt8) : be (bs ++ [x]) = be bs * 256 + x.toNat := by
  simp [be]

theorem be_toBE (k v : Nat) (h : v < 256 ^ k) : be (toBE k v) = v := by
  induction k generalizing v with
  | zero => simp [toBE, be] at *; omega
  | succ k ih =>
    rw [toBE, be_append_singleton, ih, UInt8.toNat_ofNat']
    · omega
    · rw [Nat.pow_succ] at h
      exact Nat.div_lt_of_lt_mul (by omega)

theorem be_foldl (acc : Nat) (bs : Bytes) :
    bs.foldl (fun acc b => acc * 256 + b.toNat) acc = acc * 256 ^ bs.length + be bs := by
  induction bs generalizing acc with
  | nil => simp [be]
  | cons x bs ih =>
    simp only [List.foldl_cons, List.length_cons, be]
    rw [ih, ih (0 * 256 + x.toNat), Nat.pow_succ, Nat.zero_mul, Nat.zero_add, Nat.add_mul, Nat.mul_assoc,
      Nat.mul_comm 256, Nat.add_assoc]

theorem be_cons (x : UInt8) (bs : Bytes) : be (x :: bs) = x.toNat * 256 ^ bs.length + be bs := by
  simp only [be, List.foldl_cons]
  rw [be_foldl]; simp [be]

theorem be_lt (bs : Bytes) : be bs < 256 ^ bs.length := by
  induction bs with
  | nil => simp [be]
  | cons x bs ih =>
    rw [be_cons, List.length_cons]
    have := x.toNat_lt
    have h2 : x.toNat * 256 ^ bs.length ≤ 255 * 256 ^ bs.length := Nat.mul_le_mul_right _ (by omega)
    omega

/-! ### the end of a buffer: `lastN`, `dropLastN` -/

theorem snoc_cases (b : Bytes) : b = [] ∨ ∃ x t, b = x ++ [t] := by
  simpa only [List.concat_eq_append] using List.eq_nil_or_concat b

@[simp] theorem lastN_length (n : Nat) (b : Bytes) : (lastN n b).length = min n b.length := by
  simp [lastN]; omega

@[simp] theorem dropLastN_length (n : Nat) (b : Bytes) : (dropLastN n b).length = b.length - n := by
  simp [dropLastN]

theorem lastN_append (p s : Bytes) : lastN s.length (p ++ s) = s := by
  simp [lastN]

theorem lastN_append' (p s : Bytes) (n : Nat) (h : s.length = n) : lastN n (p ++ s) = s := by
  subst h; exact lastN_append p s

theorem lastN_append_le (p s : Bytes) {n : Nat} (h : n ≤ s.length) : lastN n (p ++ s) = lastN n s := by
  simp only [lastN, List.length_append]
  rw [List.drop_append, List.drop_eq_nil_of_le (by omega)]
  simp only [List.nil_append]; congr 1; omega

theorem dropLastN_append (p s : Bytes) : dropLastN s.length (p ++ s) = p := by
  simp [dropLastN]

theorem dropLastN_append' (p s : Bytes) (n : Nat) (h : s.length = n) : dropLastN n (p ++ s) = p := by
  subst h; exact dropLastN_append p s

theorem dropLastN_append_le (p s : Bytes) (n : Nat) (h : n ≤ s.length) :
    dropLastN n (p ++ s) = p ++ dropLastN n s := by
  simp only [dropLastN, List.length_append]
  rw [List.take_append, List.take_of_length_le (by omega)]
  congr 2; omega

theorem dropLastN_lastN (n : Nat) (b : Bytes) : dropLastN n b ++ lastN n b = b := by
  simp [dropLastN, lastN]

theorem lastN_succ_snoc (x : Bytes) (f : UInt8) (k : Nat) : lastN (k + 1) (x ++ [f]) = lastN k x ++ [f] := by
  simp only [lastN, List.length_append, List.length_singleton, Nat.add_sub_add_right]
  exact List.drop_append_of_le_length (by omega)

theorem lastN_take_snoc (x : Bytes) (f : UInt8) (k : Nat) (h : k ≤ x.length) :
    (lastN (k + 1) (x ++ [f])).take k = lastN k x := by
  rw [lastN_succ_snoc, List.take_left' (by simp; omega)]

/-- testing for and reading the `k` bytes before the last byte, in terms of the bytes before it -/
theorem lastN_take_snoc_ite {α : Type} (x : Bytes) (f : UInt8) (k : Nat) (d : α) (g : Bytes → α) :
    (if (x ++ [f]).length < k + 1 then d else g ((lastN (k + 1) (x ++ [f])).take k)) =
      if x.length < k then d else g (lastN k x) := by
  by_cases h : x.length < k
  · simp [h]
  · rw [lastN_take_snoc x f k (by omega)]; simp [h]

theorem take_take_sub (b : Bytes) (n m : Nat) :
    (b.take (b.length - n)).take ((b.take (b.length - n)).length - m) = b.take (b.length - n - m) := by
  rw [List.take_take, List.length_take]
  congr 1
  omega

theorem mid_slice (p v r : Bytes) : ((p ++ v ++ r).take (p.length + v.length)).drop p.length = v := by
  rw [List.take_left' (by simp), List.drop_left' rfl]

end SpecVerif
