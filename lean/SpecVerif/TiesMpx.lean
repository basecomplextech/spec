/-
Ties (see Ties.lean) for the event sequences of PinnedMpx.lean: one per mirrored function of mpx, rpc,
the lexer and parser, the compiler model, the generator and the pools.
-/
import SpecVerif.PinnedMpx
import SpecVerif.Generated.Facts
namespace SpecVerif.TiesMpx

theorem ev_channel_acquire_tie : Generated.ev_channel_acquire = PinnedMpx.ev_channel_acquire := rfl
theorem ev_channel_tryAcquire_tie : Generated.ev_channel_tryAcquire = PinnedMpx.ev_channel_tryAcquire := rfl
theorem ev_channel_release_tie : Generated.ev_channel_release = PinnedMpx.ev_channel_release := rfl
theorem ev_channel_free_tie : Generated.ev_channel_free = PinnedMpx.ev_channel_free := rfl
theorem ev_channel_Free_tie : Generated.ev_channel_Free = PinnedMpx.ev_channel_Free := rfl
theorem ev_channel_receive_tie : Generated.ev_channel_receive = PinnedMpx.ev_channel_receive := rfl
theorem ev_channel_closeUser_tie : Generated.ev_channel_closeUser = PinnedMpx.ev_channel_closeUser := rfl
theorem ev_channel_ReceiveAsync_tie : Generated.ev_channel_ReceiveAsync = PinnedMpx.ev_channel_ReceiveAsync := rfl
theorem ev_channel_Receive_tie : Generated.ev_channel_Receive = PinnedMpx.ev_channel_Receive := rfl
theorem ev_channel_ReceiveWait_tie : Generated.ev_channel_ReceiveWait = PinnedMpx.ev_channel_ReceiveWait := rfl
theorem ev_conn_sendLoop_tie : Generated.ev_conn_sendLoop = PinnedMpx.ev_conn_sendLoop := rfl
theorem ev_rpc_client_Receive_tie : Generated.ev_rpc_client_Receive = PinnedMpx.ev_rpc_client_Receive := rfl
theorem ev_rpc_server_Receive_tie : Generated.ev_rpc_server_Receive = PinnedMpx.ev_rpc_server_Receive := rfl
theorem ev_client_new_tie : Generated.ev_client_new = PinnedMpx.ev_client_new := rfl
theorem ev_channel_Send_tie : Generated.ev_channel_Send = PinnedMpx.ev_channel_Send := rfl
theorem ev_channel_SendAndClose_tie : Generated.ev_channel_SendAndClose = PinnedMpx.ev_channel_SendAndClose := rfl
theorem ev_state_decrementSendWindow_tie : Generated.ev_state_decrementSendWindow = PinnedMpx.ev_state_decrementSendWindow := rfl
theorem ev_state_receiveWindow_tie : Generated.ev_state_receiveWindow = PinnedMpx.ev_state_receiveWindow := rfl
theorem ev_state_close_tie : Generated.ev_state_close = PinnedMpx.ev_state_close := rfl
theorem ev_conn_addClosed_tie : Generated.ev_conn_addClosed = PinnedMpx.ev_conn_addClosed := rfl
theorem ev_conn_notifyClosed_tie : Generated.ev_conn_notifyClosed = PinnedMpx.ev_conn_notifyClosed := rfl
theorem ev_conn_close_tie : Generated.ev_conn_close = PinnedMpx.ev_conn_close := rfl
theorem ev_conn_closeChannels_tie : Generated.ev_conn_closeChannels = PinnedMpx.ev_conn_closeChannels := rfl
theorem ev_conn_createChannel_tie : Generated.ev_conn_createChannel = PinnedMpx.ev_conn_createChannel := rfl
theorem ev_conn_send_tie : Generated.ev_conn_send = PinnedMpx.ev_conn_send := rfl
theorem ev_conn_Channel_tie : Generated.ev_conn_Channel = PinnedMpx.ev_conn_Channel := rfl
theorem ev_conn_run_tie : Generated.ev_conn_run = PinnedMpx.ev_conn_run := rfl
theorem ev_conn_receiveMessage_tie : Generated.ev_conn_receiveMessage = PinnedMpx.ev_conn_receiveMessage := rfl
theorem ev_conn_receiveOpen_tie : Generated.ev_conn_receiveOpen = PinnedMpx.ev_conn_receiveOpen := rfl
theorem ev_conn_receiveClose_tie : Generated.ev_conn_receiveClose = PinnedMpx.ev_conn_receiveClose := rfl
theorem ev_conn_receiveData_tie : Generated.ev_conn_receiveData = PinnedMpx.ev_conn_receiveData := rfl
theorem ev_conn_receiveWindow_tie : Generated.ev_conn_receiveWindow = PinnedMpx.ev_conn_receiveWindow := rfl
theorem ev_conn_sendHandle_tie : Generated.ev_conn_sendHandle = PinnedMpx.ev_conn_sendHandle := rfl
theorem ev_conn_handshakeAsServer_tie : Generated.ev_conn_handshakeAsServer = PinnedMpx.ev_conn_handshakeAsServer := rfl
theorem ev_client_Close_tie : Generated.ev_client_Close = PinnedMpx.ev_client_Close := rfl
theorem ev_client_conn_tie : Generated.ev_client_conn = PinnedMpx.ev_client_conn := rfl
theorem ev_client_onConnClosed_tie : Generated.ev_client_onConnClosed = PinnedMpx.ev_client_onConnClosed := rfl
theorem ev_client_onConnChannelsReached_tie : Generated.ev_client_onConnChannelsReached = PinnedMpx.ev_client_onConnChannelsReached := rfl
theorem ev_client_connect_tie : Generated.ev_client_connect = PinnedMpx.ev_client_connect := rfl
theorem ev_client_connect1_tie : Generated.ev_client_connect1 = PinnedMpx.ev_client_connect1 := rfl
theorem ev_client_connectRecover_tie : Generated.ev_client_connectRecover = PinnedMpx.ev_client_connectRecover := rfl
theorem ev_reconnectTimeout_tie : Generated.ev_reconnectTimeout = PinnedMpx.ev_reconnectTimeout := rfl
theorem ev_pool_writerState_reset_tie : Generated.ev_pool_writerState_reset = PinnedMpx.ev_pool_writerState_reset := rfl
theorem ev_pool_writerState_init_tie : Generated.ev_pool_writerState_init = PinnedMpx.ev_pool_writerState_init := rfl
theorem ev_pool_releaseWriterState_tie : Generated.ev_pool_releaseWriterState = PinnedMpx.ev_pool_releaseWriterState := rfl
theorem ev_pool_writer_reset_tie : Generated.ev_pool_writer_reset = PinnedMpx.ev_pool_writer_reset := rfl
theorem ev_pool_stack_reset_tie : Generated.ev_pool_stack_reset = PinnedMpx.ev_pool_stack_reset := rfl
theorem ev_pool_listStack_reset_tie : Generated.ev_pool_listStack_reset = PinnedMpx.ev_pool_listStack_reset := rfl
theorem ev_pool_messageStack_reset_tie : Generated.ev_pool_messageStack_reset = PinnedMpx.ev_pool_messageStack_reset := rfl
theorem ev_pool_mpx_channelState_reset_tie : Generated.ev_pool_mpx_channelState_reset = PinnedMpx.ev_pool_mpx_channelState_reset := rfl
theorem ev_pool_mpx_releaseChannelState2_tie : Generated.ev_pool_mpx_releaseChannelState2 = PinnedMpx.ev_pool_mpx_releaseChannelState2 := rfl
theorem ev_pool_mpx_releaseChannelHandler_tie : Generated.ev_pool_mpx_releaseChannelHandler = PinnedMpx.ev_pool_mpx_releaseChannelHandler := rfl
theorem ev_pool_rpc_channelState_reset_tie : Generated.ev_pool_rpc_channelState_reset = PinnedMpx.ev_pool_rpc_channelState_reset := rfl
theorem ev_pool_rpc_releaseState_tie : Generated.ev_pool_rpc_releaseState = PinnedMpx.ev_pool_rpc_releaseState := rfl
theorem ev_pool_rpc_requestState_reset_tie : Generated.ev_pool_rpc_requestState_reset = PinnedMpx.ev_pool_rpc_requestState_reset := rfl
theorem ev_pool_rpc_releaseRequestState_tie : Generated.ev_pool_rpc_releaseRequestState = PinnedMpx.ev_pool_rpc_releaseRequestState := rfl
theorem ev_pool_rpc_serverChannelState_reset_tie : Generated.ev_pool_rpc_serverChannelState_reset = PinnedMpx.ev_pool_rpc_serverChannelState_reset := rfl
theorem ev_pool_rpc_releaseServerState_tie : Generated.ev_pool_rpc_releaseServerState = PinnedMpx.ev_pool_rpc_releaseServerState := rfl
theorem ev_model_getPackage_tie : Generated.ev_model_getPackage = PinnedMpx.ev_model_getPackage := rfl
theorem ev_model_compileFiles_tie : Generated.ev_model_compileFiles = PinnedMpx.ev_model_compileFiles := rfl
theorem ev_model_parsePackage_tie : Generated.ev_model_parsePackage = PinnedMpx.ev_model_parsePackage := rfl
theorem ev_model_parseDefinitions_tie : Generated.ev_model_parseDefinitions = PinnedMpx.ev_model_parseDefinitions := rfl
theorem ev_model_file_resolve_tie : Generated.ev_model_file_resolve = PinnedMpx.ev_model_file_resolve := rfl
theorem ev_model_parseImport_tie : Generated.ev_model_parseImport = PinnedMpx.ev_model_parseImport := rfl
theorem ev_model_newField_tie : Generated.ev_model_newField = PinnedMpx.ev_model_newField := rfl
theorem ev_model_newFields_tie : Generated.ev_model_newFields = PinnedMpx.ev_model_newFields := rfl
theorem ev_model_field_resolved_tie : Generated.ev_model_field_resolved = PinnedMpx.ev_model_field_resolved := rfl
theorem ev_model_parseEnum_tie : Generated.ev_model_parseEnum = PinnedMpx.ev_model_parseEnum := rfl
theorem ev_model_enum_parseValue_tie : Generated.ev_model_enum_parseValue = PinnedMpx.ev_model_enum_parseValue := rfl
theorem ev_model_struct_validate_tie : Generated.ev_model_struct_validate = PinnedMpx.ev_model_struct_validate := rfl
theorem ev_model_structField_validate_tie : Generated.ev_model_structField_validate = PinnedMpx.ev_model_structField_validate := rfl
theorem ev_model_structField_contains_tie : Generated.ev_model_structField_contains = PinnedMpx.ev_model_structField_contains := rfl
theorem ev_model_structField_compile_tie : Generated.ev_model_structField_compile = PinnedMpx.ev_model_structField_compile := rfl
theorem ev_model_method_compile_tie : Generated.ev_model_method_compile = PinnedMpx.ev_model_method_compile := rfl
theorem ev_model_method_compileInput_tie : Generated.ev_model_method_compileInput = PinnedMpx.ev_model_method_compileInput := rfl
theorem ev_model_method_compileOutput_tie : Generated.ev_model_method_compileOutput = PinnedMpx.ev_model_method_compileOutput := rfl
theorem ev_model_method_compileType_tie : Generated.ev_model_method_compileType = PinnedMpx.ev_model_method_compileType := rfl
theorem ev_model_channel_compile_tie : Generated.ev_model_channel_compile = PinnedMpx.ev_model_channel_compile := rfl
theorem ev_model_type_resolve_tie : Generated.ev_model_type_resolve = PinnedMpx.ev_model_type_resolve := rfl
theorem ev_model_generateMessageDef_tie : Generated.ev_model_generateMessageDef = PinnedMpx.ev_model_generateMessageDef := rfl
theorem ev_model_service_parseMethod_tie : Generated.ev_model_service_parseMethod = PinnedMpx.ev_model_service_parseMethod := rfl
theorem ev_gen_file_tie : Generated.ev_gen_file = PinnedMpx.ev_gen_file := rfl
theorem ev_gen_importPackage_tie : Generated.ev_gen_importPackage = PinnedMpx.ev_gen_importPackage := rfl
theorem ev_gen_typeWriteFunc_tie : Generated.ev_gen_typeWriteFunc = PinnedMpx.ev_gen_typeWriteFunc := rfl
theorem ev_gen_typeDecodeFunc_tie : Generated.ev_gen_typeDecodeFunc = PinnedMpx.ev_gen_typeDecodeFunc := rfl
theorem ev_gen_typeName_tie : Generated.ev_gen_typeName = PinnedMpx.ev_gen_typeName := rfl
theorem ev_gen_message_field_tie : Generated.ev_gen_message_field = PinnedMpx.ev_gen_message_field := rfl
theorem ev_gen_message_writer_field_tie : Generated.ev_gen_message_writer_field = PinnedMpx.ev_gen_message_writer_field := rfl
theorem ev_gen_struct_decode_tie : Generated.ev_gen_struct_decode = PinnedMpx.ev_gen_struct_decode := rfl
theorem ev_gen_struct_encode_tie : Generated.ev_gen_struct_encode = PinnedMpx.ev_gen_struct_encode := rfl
theorem ev_gen_enum_encode_tie : Generated.ev_gen_enum_encode = PinnedMpx.ev_gen_enum_encode := rfl
theorem ev_gen_enum_decode_tie : Generated.ev_gen_enum_decode = PinnedMpx.ev_gen_enum_decode := rfl
theorem ev_lexer_Lex_tie : Generated.ev_lexer_Lex = PinnedMpx.ev_lexer_Lex := rfl
theorem ev_lexer_new_tie : Generated.ev_lexer_new = PinnedMpx.ev_lexer_new := rfl
theorem ev_lexer_Error_tie : Generated.ev_lexer_Error = PinnedMpx.ev_lexer_Error := rfl
theorem ev_lexer_scanError_tie : Generated.ev_lexer_scanError = PinnedMpx.ev_lexer_scanError := rfl
theorem ev_parser_parse_tie : Generated.ev_parser_parse = PinnedMpx.ev_parser_parse := rfl
theorem ev_reader_readLine_tie : Generated.ev_reader_readLine = PinnedMpx.ev_reader_readLine := rfl
theorem ev_reader_read_tie : Generated.ev_reader_read = PinnedMpx.ev_reader_read := rfl

end SpecVerif.TiesMpx
