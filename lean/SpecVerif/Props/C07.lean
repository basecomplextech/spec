/-
C07 — Flow control bounds unacknowledged data and never deadlocks.

Model: `Mpx/Flow.lean` (one direction of one channel). The theorems hold for EVERY window `W`
(including 1 and odd values), every sequence of message sizes and every interleaving of the sender,
the network and the receiver — induction over schedules of any length:
 * `conservation`: window + bytes in flight + bytes queued + bytes consumed-but-unacknowledged +
   window updates in flight = W, always (the closing payload included);
 * `admit_bound`: right after a message of size n is admitted the unacknowledged payload is at most
   max(W, W − ⌊W/2⌋ + n); `only_sender_debits`: nothing else ever increases it;
 * `ack_rule`: the receiver never sits on ⌊W/2⌋ or more consumed bytes;
 * `outstanding_bounded`: the same bound as an invariant of every reachable state before the close;
   `blocked_send_admitted`: from EVERY reachable state with a parked Send the fair schedule (deliver,
   consume, acknowledge, wake, re-read, test) admits it — liveness, not only absence of deadlock;
 * `no_deadlock`: whenever the sender is blocked, a network/receiver step is enabled or the wake-up
   token is there; `quiescent_admits`: once everything in flight has been delivered, consumed and
   acknowledged the admission test succeeds for EVERY size;
 * `close_exempt`: the closing payload is the only excess over the bound; `send_completes`: every
   Send in progress has a finite continuation of the schedule that admits it.
-/
import SpecVerif.Mpx.Flow
namespace SpecVerif.C07
open SpecVerif.Mpx.Flow

/-! ### the model's `sum` and `admissible` -/

theorem sum_nil : sum [] = 0 := rfl
theorem sum_cons (n : Nat) (l : List Nat) : sum (n :: l) = n + sum l := by
  unfold sum; simp
theorem sum_snoc (l : List Nat) (n : Nat) : sum (l ++ [n]) = sum l + n := by
  unfold sum; simp
theorem sum_nonneg (l : List Nat) : 0 ≤ sum l := by unfold sum; omega

theorem admissible_iff {W : Nat} {w : Int} {n : Nat} :
    admissible W w n = true ↔ w ≥ n ∨ w ≥ (W / 2 : Nat) := by
  simp [admissible]

/-! ### the inductive invariant -/

structure Inv (s : State) : Prop where
  cons : s.win + sum s.wire + sum s.rq + s.rb + sum s.acks = s.W
  ack : s.rb = 0 ∨ s.rb < s.W / 2
  loaded_le : ∀ w n, s.pc = .loaded w n → w ≤ s.win
  loaded_tok : ∀ w n, s.pc = .loaded w n → (s.slot = true ∨ s.win = w)
  waiting_tok : ∀ n, s.pc = .waiting n → (s.slot = true ∨ admissible s.W s.win n = false)

theorem inv_init (W : Nat) : Inv (init W) := by
  refine ⟨by simp [init, sum], Or.inl rfl, ?_, ?_, ?_⟩ <;> simp [init]

theorem inv_step (s s' : State) (a : Action) (hi : Inv s) (h : step s a = some s') : Inv s' := by
  have hc := hi.cons
  cases a <;> simp only [step, Option.ite_none_right_eq_some, Option.some.injEq, Bool.and_eq_true,
    decide_eq_true_eq] at h
  case sendOpen n | sendClose n =>
    obtain ⟨⟨-, hpc⟩, rfl⟩ := h
    exact { hi with
      cons := by simp only [sum_snoc]; omega
      loaded_le := by simp [hpc]
      loaded_tok := by simp [hpc]
      waiting_tok := by simp [hpc] }
  case send n =>
    obtain ⟨-, rfl⟩ := h
    exact { hi with loaded_le := nofun, loaded_tok := nofun, waiting_tok := nofun }
  case load =>
    split at h <;> cases h
    exact { hi with
      loaded_le := fun _ _ hp => by cases hp; exact Int.le_refl _
      loaded_tok := fun _ _ hp => by cases hp; exact .inr rfl
      waiting_tok := nofun }
  case decide =>
    split at h
    next w n hpc =>
      split at h <;> cases h
      · exact { hi with
          cons := by simp only [sum_snoc]; omega
          loaded_le := nofun, loaded_tok := nofun, waiting_tok := nofun }
      next hna =>
        exact { hi with
          loaded_le := nofun, loaded_tok := nofun
          waiting_tok := fun _ hp => by
            cases hp
            exact (hi.loaded_tok w n hpc).imp id fun hw => by rw [hw]; simpa using hna }
    · cases h
  case wake =>
    split at h
    · split at h <;> cases h
      exact { hi with loaded_le := nofun, loaded_tok := nofun, waiting_tok := nofun }
    · cases h
  case deliverData =>
    split at h <;> cases h
    next n rest hw => exact { hi with cons := by simp only [sum_snoc]; rw [hw, sum_cons] at hc; omega }
  case consume =>
    split at h
    next n rest hq =>
      rw [hq, sum_cons] at hc
      split at h <;> cases h
      next hlt => exact { hi with cons := by simp only; omega, ack := .inr hlt }
      · exact { hi with cons := by simp only [sum_snoc]; omega, ack := .inl rfl }
    · cases h
  case deliverWindow =>
    split at h <;> cases h
    next d rest ha =>
      rw [ha, sum_cons] at hc
      exact { hi with
        cons := by simp only; omega
        loaded_le := fun w n hp => by have := hi.loaded_le w n hp; simp only; omega
        loaded_tok := fun _ _ _ => .inl rfl
        waiting_tok := fun _ _ => .inl rfl }

theorem run_induction {P : State → Prop} (hstep : ∀ s s' a, P s → step s a = some s' → P s')
    (s : State) (hi : P s) (as : List Action) : P (run s as) := by
  induction as generalizing s with
  | nil => exact hi
  | cons a as ih =>
    simp only [run]
    cases h : step s a with
    | none => exact ih s hi
    | some s' => exact ih s' (hstep s s' a hi h)

theorem run_append (s : State) (as bs : List Action) : run s (as ++ bs) = run (run s as) bs := by
  induction as generalizing s with
  | nil => rfl
  | cons a as ih => simp only [List.cons_append, run]; split <;> exact ih _

theorem inv_run (s : State) (hi : Inv s) (as : List Action) : Inv (run s as) :=
  run_induction inv_step s hi as

/-! ### conservation, the acknowledgement rule, the bound at an admission, no deadlock -/

theorem conservation (W : Nat) (as : List Action) :
    let s := run (init W) as
    s.win + sum s.wire + sum s.rq + s.rb + sum s.acks = s.W := (inv_run _ (inv_init W) as).cons

theorem W_const (s s' : State) (a : Action) (h : step s a = some s') : s'.W = s.W := by
  revert s'
  fun_cases step s a <;> intro s' h <;> cases h <;> rfl

theorem ack_rule (W : Nat) (as : List Action) :
    (run (init W) as).rb = 0 ∨ (run (init W) as).rb < (run (init W) as).W / 2 :=
  (inv_run _ (inv_init W) as).ack

theorem admit_bound (s s' : State) (w : Int) (n : Nat) (hi : Inv s) (hpc : s.pc = .loaded w n)
    (hadm : admissible s.W w n = true) (h : step s .decide = some s') :
    s.W - s'.win ≤ max (s.W : Int) (s.W - (s.W / 2 : Nat) + n) := by
  have hle := hi.loaded_le w n hpc
  simp only [step, hpc, hadm] at h
  cases h
  simp only
  rcases admissible_iff.mp hadm with h1 | h1 <;> omega

theorem only_sender_debits (s s' : State) (a : Action) (h : step s a = some s')
    (ha : a = .load ∨ a = .wake ∨ a = .deliverData ∨ a = .consume ∨ a = .deliverWindow ∨ (∃ n, a = .send n)) :
    s.win ≤ s'.win := by
  rcases ha with rfl | rfl | rfl | rfl | rfl | ⟨n, rfl⟩ <;> simp only [step] at h <;>
    (repeat' split at h) <;> cases h
  -- the new window is `s.win`, or `s.win + d` (deliverWindow)
  all_goals dsimp only; omega

theorem quiescent_admits (s : State) (hi : Inv s) (h1 : s.wire = []) (h2 : s.rq = []) (h3 : s.acks = [])
    (n : Nat) : admissible s.W s.win n = true := by
  have hc := hi.cons
  have ha := hi.ack
  rw [h1, h2, h3] at hc
  simp only [sum_nil] at hc
  exact admissible_iff.mpr (.inr (by omega))

theorem no_deadlock (W : Nat) (as : List Action) (n : Nat)
    (hw : (run (init W) as).pc = .waiting n) :
    let s := run (init W) as
    s.wire ≠ [] ∨ s.rq ≠ [] ∨ s.acks ≠ [] ∨ s.slot = true := by
  intro s
  have hi := inv_run _ (inv_init W) as
  refine Classical.byContradiction fun hn => ?_
  simp only [not_or, Classical.not_not] at hn
  obtain ⟨h1, h2, h3, h4⟩ := hn
  rcases hi.waiting_tok n hw with ht | ht
  · exact h4 ht
  · rw [quiescent_admits s hi h1 h2 h3 n] at ht; cases ht

/-! ### the bound for every reachable state (not only right after an admission) -/

def maxl (l : List Nat) : Nat := l.foldr max 0

theorem maxl_snoc (l : List Nat) (n : Nat) : maxl (l ++ [n]) = max (maxl l) n := by
  induction l with
  | nil => simp [maxl]
  | cons a l ih =>
    show max a (maxl (l ++ [n])) = max (max a (maxl l)) n
    rw [ih, Nat.max_assoc]

/-- C07's bound as an invariant; it ends with the closing SendAndClose (`close_exempt`) -/
def Bound (s : State) : Prop :=
  s.closed = false → (s.W : Int) - s.win ≤ max (s.W : Int) (s.W - (s.W / 2 : Nat) + maxl s.admitted)

/-- before the first message nothing was debited and no Send is in progress -/
def Fresh (s : State) : Prop := s.opened = false → (s.win = s.W ∧ s.pc = .idle)

theorem Fresh.of_opened {s : State} (h : s.opened = true) : Fresh s := fun ho => nomatch h.symm.trans ho

theorem Fresh.opened_of_busy {s : State} (hf : Fresh s) (h : s.pc ≠ .idle) : s.opened = true := by
  cases ho : s.opened
  · exact absurd (hf ho).2 h
  · rfl

/-- `Fresh` and `Bound` read `opened`, `closed`, `win`, `admitted` and `pc` only; the bound is set up
afresh by every admission (from the admission test alone) and only improves until the next one -/
theorem bound_step (s s' : State) (a : Action) (hi : Inv s) (hf : Fresh s) (hb : Bound s)
    (h : step s a = some s') : Fresh s' ∧ Bound s' := by
  cases a <;> simp only [step, Option.ite_none_right_eq_some, Option.some.injEq, Bool.and_eq_true,
    Bool.not_eq_true', decide_eq_true_eq] at h
  case sendOpen n =>
    obtain ⟨⟨⟨ho, -⟩, -⟩, rfl⟩ := h
    exact ⟨nofun, fun _ => by have := (hf ho).1; simp only [maxl_snoc]; omega⟩
  case send n =>
    obtain ⟨⟨⟨ho, -⟩, -⟩, rfl⟩ := h
    exact ⟨Fresh.of_opened ho, hb⟩
  case load =>
    split at h <;> cases h
    next hpc => exact ⟨Fresh.of_opened (hf.opened_of_busy (by simp [hpc])), hb⟩
  case decide =>
    split at h
    next w n hpc =>
      have ho := hf.opened_of_busy (by simp [hpc])
      split at h <;> cases h
      next hadm =>
        refine ⟨Fresh.of_opened ho, fun _ => ?_⟩
        have := hi.loaded_le w n hpc
        have := admissible_iff.mp hadm
        simp only [maxl_snoc]
        omega
      · exact ⟨Fresh.of_opened ho, hb⟩
    · cases h
  case wake =>
    split at h
    next hpc =>
      split at h <;> cases h
      exact ⟨Fresh.of_opened (hf.opened_of_busy (by simp [hpc])), hb⟩
    · cases h
  case deliverData => split at h <;> cases h; exact ⟨hf, hb⟩
  case consume =>
    split at h
    · split at h <;> cases h <;> exact ⟨hf, hb⟩
    · cases h
  case deliverWindow =>
    split at h <;> cases h
    next d rest ha =>
      refine ⟨fun ho => ⟨?_, (hf ho).2⟩, fun hc => by have := hb hc; simp only; omega⟩
      have hc := hi.cons
      rw [ha, sum_cons] at hc
      have := sum_nonneg s.wire; have := sum_nonneg s.rq; have := sum_nonneg rest
      have := (hf ho).1
      simp only; omega
  case sendClose n =>
    obtain ⟨-, rfl⟩ := h
    exact ⟨nofun, nofun⟩

theorem bound_run (s : State) (hi : Inv s) (hf : Fresh s) (hb : Bound s) (as : List Action) : Bound (run s as) :=
  (run_induction (P := fun s => Inv s ∧ Fresh s ∧ Bound s)
    (fun s s' a ⟨hi, hf, hb⟩ h => ⟨inv_step s s' a hi h, bound_step s s' a hi hf hb h⟩) s ⟨hi, hf, hb⟩ as).2.2

/-- C07, first sentence; the largest admitted size includes the first, untested, message -/
theorem outstanding_bounded (W : Nat) (as : List Action) :
    let s := run (init W) as
    s.closed = false → (s.W : Int) - s.win ≤ max (s.W : Int) (s.W - (s.W / 2 : Nat) + maxl s.admitted) :=
  bound_run _ (inv_init W) (fun _ => ⟨rfl, rfl⟩) (fun _ => by simp only [init]; omega) as

theorem close_exempt (s s' : State) (n : Nat) (hb : Bound s) (hc : s.closed = false)
    (h : step s (.sendClose n) = some s') :
    (s'.W : Int) - s'.win ≤ max (s.W : Int) (s.W - (s.W / 2 : Nat) + maxl s.admitted) + n := by
  have := hb hc
  simp only [step] at h
  split at h
  · cases h; simp only; omega
  · cases h

/-! ### liveness under fair delivery: a blocked Send IS admitted after finitely many steps -/

theorem drain_wire (k : Nat) (s : State) (hk : s.wire.length ≤ k) :
    (run s (List.replicate k .deliverData)).wire = [] ∧
    (run s (List.replicate k .deliverData)).pc = s.pc ∧
    (run s (List.replicate k .deliverData)).acks.length = s.acks.length ∧
    (run s (List.replicate k .deliverData)).rq.length = s.rq.length + s.wire.length ∧
    (run s (List.replicate k .deliverData)).admitted = s.admitted := by
  induction k generalizing s with
  | zero => simp [run, List.length_eq_zero_iff.mp (Nat.le_zero.mp hk)]
  | succ k ih =>
    cases hw : s.wire with
    | nil => simpa [List.replicate_succ, run, step, hw] using ih s (by simp [hw])
    | cons n rest =>
      have := ih { s with wire := rest, rq := s.rq ++ [n] } (by simp [hw] at hk; omega)
      simpa [List.replicate_succ, run, step, hw, Nat.add_assoc, Nat.add_comm 1] using this

theorem drain_rq (k : Nat) (s : State) (hk : s.rq.length ≤ k) :
    (run s (List.replicate k .consume)).rq = [] ∧
    (run s (List.replicate k .consume)).wire = s.wire ∧
    (run s (List.replicate k .consume)).pc = s.pc ∧
    (run s (List.replicate k .consume)).acks.length ≤ s.acks.length + s.rq.length ∧
    (run s (List.replicate k .consume)).admitted = s.admitted := by
  induction k generalizing s with
  | zero => simp [run, List.length_eq_zero_iff.mp (Nat.le_zero.mp hk)]
  | succ k ih =>
    cases hw : s.rq with
    | nil => simpa [List.replicate_succ, run, step, hw] using ih s (by simp [hw])
    | cons n rest =>
      rw [hw] at hk
      by_cases hlt : s.rb + n < s.W / 2
      · have := ih { s with rq := rest, rb := s.rb + n } (by simpa using hk)
        simp only [List.replicate_succ, run, step, hw, hlt, ↓reduceIte, List.length_cons] at this ⊢
        exact ⟨this.1, this.2.1, this.2.2.1, by omega, this.2.2.2.2⟩
      · have := ih { s with rq := rest, rb := 0, acks := s.acks ++ [s.rb + n] } (by simpa using hk)
        simp only [List.replicate_succ, run, step, hw, hlt, ↓reduceIte, List.length_cons, List.length_append,
          List.length_nil] at this ⊢
        exact ⟨this.1, this.2.1, this.2.2.1, by omega, this.2.2.2.2⟩

theorem drain_acks (k : Nat) (s : State) (hk : s.acks.length ≤ k) :
    (run s (List.replicate k .deliverWindow)).acks = [] ∧
    (run s (List.replicate k .deliverWindow)).wire = s.wire ∧
    (run s (List.replicate k .deliverWindow)).rq = s.rq ∧
    (run s (List.replicate k .deliverWindow)).pc = s.pc ∧
    (run s (List.replicate k .deliverWindow)).admitted = s.admitted := by
  induction k generalizing s with
  | zero => simp [run, List.length_eq_zero_iff.mp (Nat.le_zero.mp hk)]
  | succ k ih =>
    cases hw : s.acks with
    | nil => simpa [List.replicate_succ, run, step, hw] using ih s (by simp [hw])
    | cons d rest =>
      simpa [List.replicate_succ, run, step, hw] using
        ih { s with acks := rest, win := s.win + d, slot := true } (by simp [hw] at hk; omega)

/-- the fair environment schedule: deliver every data frame, consume every message, deliver every
window update (steps that are not enabled are skipped by `run`), then the sender's own retry -/
def fairSchedule (s : State) : List Action :=
  List.replicate s.wire.length .deliverData ++
  (List.replicate (s.rq.length + s.wire.length) .consume ++
  (List.replicate (s.acks.length + s.rq.length + s.wire.length) .deliverWindow ++
  [.wake, .load, .decide]))

/-- C07, second sentence, from every state that satisfies the invariant -/
theorem blocked_send_admitted (s : State) (hi : Inv s) (n : Nat) (hw : s.pc = .waiting n) :
    (run s (fairSchedule s)).pc = .idle ∧ (run s (fairSchedule s)).admitted = s.admitted ++ [n] := by
  unfold fairSchedule
  rw [run_append, run_append, run_append]
  obtain ⟨a1, a2, a3, a4, a5⟩ := drain_wire s.wire.length s (Nat.le_refl _)
  generalize hs1 : run s (List.replicate s.wire.length .deliverData) = s1 at *
  obtain ⟨b1, b2, b3, b4, b5⟩ := drain_rq (s.rq.length + s.wire.length) s1 (by omega)
  generalize hs2 : run s1 (List.replicate (s.rq.length + s.wire.length) .consume) = s2 at *
  obtain ⟨c1, c2, c3, c4, c5⟩ := drain_acks (s.acks.length + s.rq.length + s.wire.length) s2 (by omega)
  generalize hs3 : run s2 (List.replicate (s.acks.length + s.rq.length + s.wire.length) .deliverWindow) = s3 at *
  have hi3 : Inv s3 := by
    rw [← hs3, ← hs2, ← hs1]; exact inv_run _ (inv_run _ (inv_run _ hi _) _) _
  have hpc : s3.pc = .waiting n := by rw [c4, b3, a2, hw]
  have hwire : s3.wire = [] := by rw [c2, b2, a1]
  have hrq : s3.rq = [] := by rw [c3, b1]
  have hadm := quiescent_admits s3 hi3 hwire hrq c1
  have hslot : s3.slot = true := by
    rcases hi3.waiting_tok n hpc with h | h
    · exact h
    · rw [hadm n] at h; cases h
  have hadm3 : s3.admitted = s.admitted := by rw [c5, b5, a5]
  simp only [run, step, hpc, hslot, ↓reduceIte, hadm n, hadm3, and_self]

/-- the same for every reachable state of every window and schedule -/
theorem blocked_send_admitted_reachable (W : Nat) (as : List Action) (n : Nat)
    (hw : (run (init W) as).pc = .waiting n) :
    (run (run (init W) as) (fairSchedule (run (init W) as))).pc = .idle ∧
    (run (run (init W) as) (fairSchedule (run (init W) as))).admitted = (run (init W) as).admitted ++ [n] :=
  blocked_send_admitted _ (inv_run _ (inv_init W) as) n hw

/-- a Send that has read the window completes: it is admitted at once or parked and then admitted -/
theorem loaded_send_completes (s : State) (hi : Inv s) (w : Int) (n : Nat) (hpc : s.pc = .loaded w n) :
    ∃ as, (run s as).pc = .idle ∧ (run s as).admitted = s.admitted ++ [n] := by
  by_cases hadm : admissible s.W w n = true
  · refine ⟨[.decide], ?_⟩
    simp [run, step, hpc, hadm]
  · have hs : step s .decide = some { s with pc := .waiting n } := by simp [step, hpc, hadm]
    have hi' := inv_step s _ .decide hi hs
    obtain ⟨h1, h2⟩ := blocked_send_admitted { s with pc := .waiting n } hi' n rfl
    refine ⟨.decide :: fairSchedule { s with pc := .waiting n }, ?_⟩
    simp only [run, hs]
    exact ⟨h1, h2⟩

theorem send_completes (s : State) (hi : Inv s) (n : Nat)
    (h : s.pc = .start n ∨ (∃ w, s.pc = .loaded w n) ∨ s.pc = .waiting n) :
    ∃ as, (run s as).pc = .idle ∧ (run s as).admitted = s.admitted ++ [n] := by
  rcases h with h | ⟨w, h⟩ | h
  · have hs : step s .load = some { s with pc := .loaded s.win n } := by simp [step, h]
    have hi' := inv_step s _ .load hi hs
    obtain ⟨as, h1, h2⟩ := loaded_send_completes { s with pc := .loaded s.win n } hi' s.win n rfl
    refine ⟨.load :: as, ?_⟩
    simp only [run, hs]
    exact ⟨h1, h2⟩
  · exact loaded_send_completes s hi w n h
  · exact ⟨fairSchedule s, blocked_send_admitted s hi n h⟩

/-! ### non-vacuity and boundary instances -/

/-- W = 1 (⌊W/2⌋ = 0): a second 1-byte message is still admitted (window 0 ≥ 0), the third blocks
until a window update arrives, then goes out -/
example : (run (init 1) [.sendOpen 1, .send 1, .load, .decide, .send 1, .load, .decide]).pc = .waiting 1 := by
  decide
example : (run (init 1) [.sendOpen 1, .send 1, .load, .decide, .send 1, .load, .decide,
    .deliverData, .consume, .deliverWindow, .wake, .load, .decide]).pc = .idle := by decide
/-- a message larger than the whole window is admitted when at least half the window is free -/
example : (run (init 8) [.sendOpen 1, .send 100, .load, .decide]).admitted = [1, 100] := by decide
/-- the bound is attained: W = 8, first message 4, then 100 is admitted with exactly ⌊W/2⌋ = 4 free: 104 outstanding
= 8 − 4 + 100; and the premise `closed = false` holds there -/
example : let s := run (init 8) [.sendOpen 4, .send 100, .load, .decide]
    s.closed = false ∧ (s.W : Int) - s.win = 104 ∧ maxl s.admitted = 100 := by decide
/-- `blocked_send_admitted` is not vacuous: the W = 1 state above is reachable, parked, and the fair
schedule admits the third message -/
example : let s := run (init 1) [.sendOpen 1, .send 1, .load, .decide, .send 1, .load, .decide]
    s.pc = .waiting 1 ∧ (run s (fairSchedule s)).admitted = [1, 1, 1] := by decide

end SpecVerif.C07
