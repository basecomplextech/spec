/-
C19 — Client connection state is consistent, bounded and recovers.

 * Back-off (`Mpx/Client.lean: reconnectTimeout`, Go's integer semantics incl. the uint16 wrap and
   shifts ≥ 64): for EVERY attempt number a ≥ 2 the wait is between 25 ms and 1 s and never
   decreases with the attempt number (`backoff_bounds`, `backoff_monotone`).
 * Bookkeeping state machine, all interleavings of Close / Conn slow path / connection-closed and
   channels-reached callbacks / dial results, schedules of any length (`inv_reachable`):
   exactly one of Connected/Disconnected; Connected ⇒ a connection is listed; connections in the
   list plus an in-flight dial never exceed max(1, MaxConns); Close is terminal (`closed_terminal`)
   and idempotent (`close_idempotent`); after Close no connection is ever registered again, a dial
   that completes later is discarded (`no_conn_after_close`) and no new dial is ever started
   (`no_dial_after_close`, repaired tree: F20); recovery: with no connection left the
   next call starts a dial (`ondemand_redials`), the auto-connect client re-arms itself after a
   failed dial and after its last connection closed (`auto_rearms`).
Residual (runtime, not in the model): real sleeps are only lower-bounded by the scenario check.
-/
import SpecVerif.Mpx.Client
namespace SpecVerif.C19
open SpecVerif.Mpx.Client

/-! ### back-off -/

theorem multi_small : ∀ a, a < 16 → 2 ≤ a → multi a = 2 ^ a - 2 := by decide

theorem shl1_lt (a : Nat) : shl1 a < 2 ^ 64 := by
  unfold shl1
  split
  · exact Nat.pow_lt_pow_right (by decide) (by assumption)
  · decide

theorem shl1_dvd (a : Nat) (h : 16 ≤ a) : 65536 ∣ shl1 a := by
  unfold shl1
  split
  · exact Nat.pow_dvd_pow 2 h
  · exact Nat.dvd_zero _

/-- from attempt 16 on the low 16 bits of `1<<attempt` are zero, so `uint16(1<<attempt - 2)` is 0xFFFE -/
theorem multi_large (a : Nat) (h : 16 ≤ a) : multi a = 65534 := by
  have := shl1_dvd a h
  unfold multi
  omega

/-- from attempt 6 on the wait is the maximum: 25 ms · (2^6 − 2) exceeds 1 s, and `multi` never falls below 62 again -/
theorem backoff_saturates (a : Nat) (h : 6 ≤ a) : reconnectTimeout a = maxRetryNs := by
  unfold reconnectTimeout
  by_cases c : a < 16
  · have hs : ∀ a, a < 16 → 6 ≤ a → min (minRetryNs * multi a) maxRetryNs = maxRetryNs := by decide
    exact hs a c h
  · rw [multi_large a (by omega)]; decide

theorem backoff_bounds (a : Nat) (h : 2 ≤ a) :
    minRetryNs ≤ reconnectTimeout a ∧ reconnectTimeout a ≤ maxRetryNs := by
  by_cases c : a < 6
  · have hs : ∀ a, a < 6 → 2 ≤ a → minRetryNs ≤ reconnectTimeout a ∧ reconnectTimeout a ≤ maxRetryNs := by decide
    exact hs a c h
  · rw [backoff_saturates a (by omega)]; decide

theorem backoff_monotone (a : Nat) (h : 2 ≤ a) : reconnectTimeout a ≤ reconnectTimeout (a + 1) := by
  by_cases c : a < 6
  · have hs : ∀ a, a < 6 → 2 ≤ a → reconnectTimeout a ≤ reconnectTimeout (a + 1) := by decide
    exact hs a c h
  · rw [backoff_saturates a (by omega), backoff_saturates (a + 1) (by omega)]; exact Nat.le_refl _

/-- the values the implementation is compared with on every run -/
example : (List.range 8).map reconnectTimeout =
    [1000000000, 0, 50000000, 150000000, 350000000, 750000000, 1000000000, 1000000000] := by decide

/-! ### bookkeeping -/

def pending (s : State) : Nat :=
  match s.dial with
  | .inNet | .failed => if s.closed then 0 else 1
  | _ => 0

structure Inv (s : State) : Prop where
  flags : s.connected = !s.disconnected
  closed_empty : s.closed = true → s.conns = 0 ∧ s.connected = false
  bound : s.conns + pending s ≤ cap s
  connected_has : s.connected = true → s.conns > 0

theorem inv_init (auto : Bool) (m : Nat) : Inv (init auto m) := by
  refine ⟨by simp [init], by simp [init], ?_, by simp [init]⟩
  cases auto <;> simp [init, pending, cap] <;> omega

theorem cap_pos (s : State) : 1 ≤ cap s := Nat.le_max_left ..

theorem pending_le_one (s : State) : pending s ≤ 1 := by
  unfold pending; split <;> (try split) <;> omega

theorem pending_closed {s : State} (h : s.closed = true) : pending s = 0 := by
  unfold pending; split <;> simp [h]

/-- `bound` is the only clause that reads `dial` -/
theorem inv_startDial {s : State} (hi : Inv s) (h : s.conns < cap s) : Inv (startDial s) := by
  unfold startDial
  split
  · exact { hi with bound := Nat.le_trans (Nat.add_le_add_left (pending_le_one _) _) h }
  · exact hi

theorem inv_disconnect {s : State} (hb : s.conns + pending s ≤ cap s) (h0 : s.conns = 0) :
    Inv { s with connected := false, disconnected := true } :=
  ⟨rfl, fun _ => ⟨h0, rfl⟩, hb, nofun⟩

theorem inv_step (s s' : State) (a : Action) (hi : Inv s) (h : step s a = some s') : Inv s' := by
  have hb := hi.bound
  have hcap := cap_pos s
  have hb' : s.conns - 1 + pending s ≤ cap s := by omega
  have less : (s.connected = true → s.conns - 1 > 0) → Inv { s with conns := s.conns - 1 } := fun hh =>
    { hi with
      closed_empty := fun hc =>
        ⟨by have := (hi.closed_empty hc).1; show s.conns - 1 = 0; omega, (hi.closed_empty hc).2⟩
      bound := hb'
      connected_has := hh }
  revert s'
  -- one goal per branch of `step` that returns a state, in the order of its text, the guards as hypotheses
  fun_cases step s a <;> intro s' h <;> cases h
  -- close
  · exact hi
  · exact ⟨rfl, fun _ => ⟨rfl, rfl⟩, by simp [pending_closed], nofun⟩
  -- connSlow
  · exact hi
  · exact hi
  · exact inv_startDial (inv_disconnect hb (by omega)) (show s.conns < cap s by omega)
  -- connClosed
  next h1 => exact less fun _ => h1
  next _ hc => exact less fun hcn => by simp [(hi.closed_empty hc).2] at hcn
  next h1 _ _ =>
    have hd := inv_disconnect (s := { s with conns := s.conns - 1 }) hb' (by simpa using h1)
    split
    · exact inv_startDial hd (show s.conns - 1 < cap s by omega)
    · exact hd
  -- lateConnClosed
  · exact hi
  -- channelsReached
  · exact hi
  · exact hi
  next hlt => exact inv_startDial hi (Nat.lt_of_lt_of_le hlt (Nat.le_max_right ..))
  · exact hi
  -- dialSuccess
  next hd hc => exact { hi with bound := by simpa [pending, cap, hd] using hb }
  next hd hc =>
    exact ⟨rfl, fun h => absurd h hc, by simpa [pending, cap, hd, hc] using hb, fun _ => Nat.succ_pos _⟩
  -- dialFail
  next hd => exact { hi with bound := by simpa [pending, cap, hd] using hb }
  -- connectTail
  next hd => exact { hi with bound := by simpa [pending, cap, hd] using hb }
  next hd =>
    simp only [pending, hd] at hb
    split
    · exact { hi with bound := hb }
    · exact { hi with bound := Nat.le_trans (Nat.le_add_right ..) hb }

theorem run_induction {P : State → Prop} (hstep : ∀ s s' a, P s → step s a = some s' → P s')
    (s : State) (hi : P s) (as : List Action) : P (run s as) := by
  induction as generalizing s with
  | nil => exact hi
  | cons a as ih =>
    simp only [run]
    cases h : step s a with
    | none => exact ih s hi
    | some s' => exact ih s' (hstep s s' a hi h)

theorem inv_run (s : State) (hi : Inv s) (as : List Action) : Inv (run s as) :=
  run_induction inv_step s hi as

theorem inv_reachable (auto : Bool) (m : Nat) (as : List Action) : Inv (run (init auto m) as) :=
  inv_run _ (inv_init auto m) as

theorem exactly_one_flag (auto : Bool) (m : Nat) (as : List Action) :
    (run (init auto m) as).connected ≠ (run (init auto m) as).disconnected := by
  have := (inv_reachable auto m as).flags
  cases h : (run (init auto m) as).disconnected <;> simp_all

theorem startDial_maxConns (s : State) : (startDial s).maxConns = s.maxConns := by
  unfold startDial; split <;> rfl

theorem step_maxConns {s s' : State} {a : Action} (h : step s a = some s') : s'.maxConns = s.maxConns := by
  revert s'
  fun_cases step s a <;> intro s' h <;> cases h <;> (try split) <;> first | rfl | exact startDial_maxConns _

theorem conns_bounded (auto : Bool) (m : Nat) (as : List Action) :
    (run (init auto m) as).conns ≤ max 1 m := by
  have h := (inv_reachable auto m as).bound
  have hm : (run (init auto m) as).maxConns = m :=
    run_induction (fun _ _ _ hp h => (step_maxConns h).trans hp) _ rfl as
  unfold cap at h
  omega

theorem closed_terminal (s s' : State) (a : Action) (hc : s.closed = true) (h : step s a = some s') :
    s'.closed = true := by
  -- `closed` is kept, or set (by Close); the branches through `startDial` test that it is not set
  revert s'
  fun_cases step s a <;> intro s' h <;> cases h <;> first | exact hc | rfl | contradiction

theorem close_idempotent (s : State) (hc : s.closed = true) : step s .close = some s := by
  simp [step, hc]

theorem no_conn_after_close (s : State) (hi : Inv s) (hc : s.closed = true) (as : List Action) :
    (run s as).conns = 0 ∧ (run s as).connected = false := by
  have hcl : (run s as).closed = true := run_induction closed_terminal s hc as
  exact (inv_run s hi as).closed_empty hcl

/-- a closed client never starts a dial: after Close the only dial that can still be running is the
one that was already in the network when Close was called (its result is discarded) -/
theorem no_dial_after_close (s s' : State) (a : Action) (hc : s.closed = true)
    (h : step s a = some s') : s'.dial = .inNet → s.dial = .inNet := by
  revert s'
  fun_cases step s a <;> intro s' h <;> cases h <;> first | exact id | simp_all

theorem ondemand_redials (s : State) (hc : s.closed = false) (h0 : s.conns = 0) (hd : s.dial = .none) :
    ∃ s', step s .connSlow = some s' ∧ s'.dial = .inNet := by
  simp [step, hc, h0, startDial, hd]

theorem auto_rearms (s : State) (ha : s.auto = true) (hc : s.closed = false) :
    (s.conns = 1 → s.dial = .none → ∃ s', step s .connClosed = some s' ∧ s'.dial = .inNet) ∧
    (s.dial = .failed → ∃ s', step s .connectTail = some s' ∧ s'.dial = .inNet) := by
  constructor
  · intro h1 hd
    simp [step, h1, ha, hc, startDial, hd]
  · intro hd
    simp [step, hd, ha, hc]

end SpecVerif.C19
