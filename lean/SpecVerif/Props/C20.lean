/-
C20 — Handlers and close listeners fire exactly once (listener part; the handler part is the
GetOrSet dispatch of C11/C06 plus the scenario check).

Model `Mpx/Listeners.lean` (repaired protocol), all interleavings of registration, unsubscription
and connection close, schedules of any length:
 * a listener is called at most once, and only after the closed flag is set (`inv_reachable`);
 * registration reported "already closed" ⇒ the listener is never called (`failed_never_called`);
 * registration reported success and no unsubscribe ⇒ once the closer has finished the listener has
   been called exactly once (`ok_called_once`);
 * unsubscribed before the close began ⇒ never called (`unsub_never_called`).
`unrepaired_counterexample`: on the pinned code the notifier called the listener without deleting
it and the registrar then reported failure — called although registration failed.
-/
import SpecVerif.Mpx.Listeners
namespace SpecVerif.C20
open SpecVerif.Mpx.Listeners

structure Inv (s : State) : Prop where
  called_le : s.called ≤ 1
  called_taken : s.called = 1 → s.taken = true
  taken_closed : s.taken = true → s.closed = true
  flag_in_cb : s.closedSeenInCallback = true
  -- the entry is in exactly one place: map, taken by the notifier, removed by registrar/unsub, or not yet inserted
  taken_not_present : s.taken = true → s.present = false
  failed_untaken : s.reg = .done false → s.taken = false ∧ s.present = false
  closer_flag : s.closer ≠ .open → s.closed = true
  open_flag : s.closer = .open → s.closed = false
  not_inserted : (s.reg = .start ∨ s.reg = .checked1) → s.present = false ∧ s.taken = false ∧ ¬ s.unsubbed
  after_flag : s.insertedAfterFlag = true → s.closed = true
  -- an entry inserted after the flag is always removed by its own registrar unless taken
  late_entry : s.present = true → s.insertedAfterFlag = true → (s.reg = .inserted ∨ s.reg = .sawClosed)
  ins_live : (s.reg = .inserted ∨ s.reg = .sawClosed) → (s.present = true ∨ s.taken = true) ∧ s.unsubbed = false
  saw_closed : s.reg = .sawClosed → s.closed = true
  ok_live : s.reg = .done true → s.unsubbed = false → (s.present = true ∨ s.taken = true)
  ok_early : s.reg = .done true → s.present = true → s.insertedAfterFlag = false
  unsub_early : s.unsubBeforeClose = true → s.unsubbed = true ∧ s.taken = false
  unsub_clears : s.unsubbed = true → s.present = false
  finished : s.closer = .finished → (s.taken = true → s.called = 1) ∧ (s.present = true → s.insertedAfterFlag = true)

theorem inv_init : Inv init := by
  constructor <;> simp [init]

theorem inv_step (s s' : State) (a : Action) (hi : Inv s) (h : step s a = some s') : Inv s' := by
  cases a <;> simp only [step, Option.ite_none_right_eq_some, Option.some.injEq] at h
  case regStep =>
    split at h <;> cases h
    next hr =>  -- start: the first flag test
      obtain ⟨hp, ht, hu⟩ := hi.not_inserted (.inl hr)
      split
      · exact { hi with
          failed_untaken := fun _ => ⟨ht, hp⟩
          not_inserted := nofun
          late_entry := by simp [hp]
          ins_live := nofun
          saw_closed := nofun
          ok_live := nofun
          ok_early := nofun }
      · exact { hi with
          failed_untaken := nofun
          not_inserted := fun _ => ⟨hp, ht, hu⟩
          late_entry := by simp [hp]
          ins_live := nofun
          saw_closed := nofun
          ok_live := nofun
          ok_early := nofun }
    next hr =>  -- checked1: the insert
      obtain ⟨hp, ht, hu⟩ := hi.not_inserted (.inr hr)
      exact { hi with
        taken_not_present := by simp [ht]
        failed_untaken := nofun
        not_inserted := nofun
        after_flag := id
        late_entry := fun _ _ => .inl rfl
        ins_live := fun _ => ⟨.inl rfl, by simpa using hu⟩
        saw_closed := nofun
        ok_live := nofun
        ok_early := nofun
        unsub_clears := by simpa using hu
        finished := fun (hf : s.closer = .finished) =>
          ⟨(hi.finished hf).1, fun _ => hi.closer_flag (by simp [hf])⟩ }
    next hr =>  -- inserted: the second flag test
      split
      next hc => exact { hi with
          failed_untaken := nofun
          not_inserted := nofun
          late_entry := fun _ _ => .inr rfl
          ins_live := fun _ => hi.ins_live (.inl hr)
          saw_closed := fun _ => hc
          ok_live := nofun
          ok_early := nofun }
      next hc =>
        have hiaf : s.insertedAfterFlag = false := by simpa using mt hi.after_flag hc
        exact { hi with
          failed_untaken := nofun
          not_inserted := nofun
          late_entry := by simp [hiaf]
          ins_live := nofun
          saw_closed := nofun
          ok_live := fun _ _ => (hi.ins_live (.inl hr)).1
          ok_early := fun _ _ => hiaf }
    next hr =>  -- sawClosed: Delete of the own entry
      split
      next hp =>
        have ht : s.taken = false := by simpa [hp] using mt hi.taken_not_present
        exact { hi with
          taken_not_present := fun _ => rfl
          failed_untaken := fun _ => ⟨ht, rfl⟩
          not_inserted := nofun
          late_entry := nofun
          ins_live := nofun
          saw_closed := nofun
          ok_live := nofun
          ok_early := nofun
          unsub_clears := fun _ => rfl
          finished := fun hf => ⟨(hi.finished hf).1, nofun⟩ }
      next hp => exact { hi with
          failed_untaken := nofun
          not_inserted := nofun
          late_entry := by simp [hp]
          ins_live := nofun
          saw_closed := nofun
          ok_live := fun _ _ => (hi.ins_live (.inr hr)).1
          ok_early := by simp [hp] }
  case unsub =>
    obtain ⟨⟨hr, hu⟩, rfl⟩ := h
    exact { hi with
      taken_not_present := fun _ => rfl
      failed_untaken := by simp [hr]
      not_inserted := by simp [hr]
      late_entry := nofun
      ins_live := by simp [hr]
      ok_live := nofun
      ok_early := nofun
      unsub_early := fun ho => ⟨rfl, by simpa [hi.open_flag (of_decide_eq_true ho)] using mt hi.taken_closed⟩
      unsub_clears := fun _ => rfl
      finished := fun hf => ⟨(hi.finished hf).1, nofun⟩ }
  case setFlag =>
    obtain ⟨-, rfl⟩ := h
    exact { hi with
      taken_closed := fun _ => rfl
      closer_flag := fun _ => rfl
      open_flag := nofun
      after_flag := fun _ => rfl
      saw_closed := fun _ => rfl
      finished := nofun }
  case take =>
    obtain ⟨⟨hc, hp⟩, rfl⟩ := h
    exact { hi with
      called_taken := fun _ => rfl
      taken_closed := fun _ => hi.closer_flag (by simp [hc])
      taken_not_present := fun _ => rfl
      failed_untaken := fun hr => by simpa [hp] using (hi.failed_untaken hr).2
      not_inserted := fun hr => by simpa [hp] using (hi.not_inserted hr).1
      late_entry := nofun
      ins_live := fun hr => ⟨.inr rfl, (hi.ins_live hr).2⟩
      ok_live := fun _ _ => .inr rfl
      ok_early := nofun
      unsub_early := fun hu => by simpa [hp] using hi.unsub_clears (hi.unsub_early hu).1
      unsub_clears := fun _ => rfl
      finished := by simp [hc] }
  case call =>
    obtain ⟨⟨ht, hn⟩, rfl⟩ := h
    exact { hi with
      called_le := by simp [hn]
      called_taken := fun _ => ht
      flag_in_cb := hi.taken_closed ht
      finished := fun hf => ⟨fun _ => by simp [hn], (hi.finished hf).2⟩ }
  case finish =>
    obtain ⟨⟨hc, hp, ht⟩, rfl⟩ := h
    exact { hi with
      closer_flag := fun _ => hi.closer_flag (by simp [hc])
      open_flag := nofun
      finished := fun _ => ⟨ht, Decidable.imp_iff_not_or.2 hp⟩ }

theorem inv_run (s : State) (hi : Inv s) (as : List Action) : Inv (run s as) := by
  induction as generalizing s with
  | nil => exact hi
  | cons a as ih =>
    simp only [run]
    cases h : step s a with
    | none => exact ih s hi
    | some s' => exact ih s' (inv_step s s' a hi h)

theorem inv_reachable (as : List Action) : Inv (run init as) := inv_run _ inv_init as

/-- called at most once, and the closed flag is observable inside the callback -/
theorem at_most_once (as : List Action) :
    (run init as).called ≤ 1 ∧ (run init as).closedSeenInCallback = true :=
  ⟨(inv_reachable as).called_le, (inv_reachable as).flag_in_cb⟩

theorem Inv.not_called {s : State} (hi : Inv s) (ht : s.taken = false) : s.called = 0 := by
  have := hi.called_le
  have : s.called ≠ 1 := fun c => nomatch ht.symm.trans (hi.called_taken c)
  omega

theorem failed_never_called (as : List Action) (h : (run init as).reg = .done false) :
    (run init as).called = 0 :=
  (inv_reachable as).not_called ((inv_reachable as).failed_untaken h).1

theorem ok_called_once (as : List Action) (hr : (run init as).reg = .done true)
    (hu : (run init as).unsubbed = false) (hf : (run init as).closer = .finished) :
    (run init as).called = 1 := by
  have hi := inv_reachable as
  rcases hi.ok_live hr hu with hp | ht
  · -- still in the map after the closer finished: only possible for late entries, which a
    -- successfully registered listener never is
    have h1 := (hi.finished hf).2 hp
    have h2 := hi.ok_early hr hp
    rw [h2] at h1; cases h1
  · exact (hi.finished hf).1 ht

theorem unsub_never_called (as : List Action) (hu : (run init as).unsubBeforeClose = true) :
    (run init as).called = 0 :=
  (inv_reachable as).not_called ((inv_reachable as).unsub_early hu).2

/-! ### the unrepaired protocol (pinned commit): notifyClosed called the listeners it saw and then
cleared the map without taking them; a registrar that re-checked after that reported failure -/

/-- old notifier step: call without deleting -/
def oldCall (s : State) : State := { s with called := s.called + 1 }
/-- old registrar tail: closed seen ⇒ Delete (result ignored) and report failure -/
def oldRegTail (s : State) : State := { s with present := false, reg := .done false }

/-- schedule: first check, insert, close sets the flag, notifier calls the listener, registrar
re-checks and reports failure -/
theorem unrepaired_counterexample :
    let s := run init [.regStep, .regStep, .setFlag]
    let s' := oldRegTail (oldCall s)
    s'.reg = .done false ∧ s'.called = 1 := by decide

/-- on the repaired protocol the same interleaving reports success and calls exactly once -/
example : (run init [.regStep, .regStep, .setFlag, .take, .call, .regStep, .regStep, .finish]).reg = .done true ∧
    (run init [.regStep, .regStep, .setFlag, .take, .call, .regStep, .regStep, .finish]).called = 1 := by decide

end SpecVerif.C20
