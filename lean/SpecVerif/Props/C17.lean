/-
C17 — Reading allocates nothing; steady-state writing allocates nothing (the part that is logic).

The allocation count itself is a fact about the Go compiler and runtime and is MEASURED by the
`allocs` harness (runtime allocation counter per shape). What can be proved is the capacity logic
that makes the measured zero plausible for every shape and every history:
 * a reusable writer owns four growable regions (output buffer, entry stack, list-element table
   stack, message-field table stack); writing a message of a given shape needs a fixed amount of
   each (`Need`), a region allocates only when the need exceeds its capacity and then keeps at least
   the needed capacity (`after`): Go's `append`/`Grow` never shrink;
 * `steady_state_zero` : writing the same shape again allocates nothing, whatever happened before;
 * `warmup_once`       : after one pass over ANY list of shapes, a second pass over the same shapes
                          in any order allocates nothing (capacities only grow: `after_mono`);
 * `second_pass_free`  : counted per write (`allocatingWrites`): a second pass over the same shapes has no
                          allocating write.
Reading: the reader's functions return views (sub-slices) of the input — in the model every result
of `openValue`, `getBytes`, `fieldRaw` is a sub-list of the input (C02's `SafeN`/view lemmas), no
construction of new byte storage exists in the model; the Go side measures 0 for every shape.
-/
namespace SpecVerif.C17

/-- capacities of the four regions / what a message shape needs of them -/
structure Caps where
  buf : Nat
  stack : Nat
  elems : Nat
  fields : Nat
  deriving DecidableEq, Repr

abbrev Need := Caps

def fits (c : Caps) (n : Need) : Bool :=
  decide (n.buf ≤ c.buf) && decide (n.stack ≤ c.stack) && decide (n.elems ≤ c.elems) && decide (n.fields ≤ c.fields)

/-- regions that have to grow for this write -/
def allocs (c : Caps) (n : Need) : Nat :=
  (if n.buf ≤ c.buf then 0 else 1) + (if n.stack ≤ c.stack then 0 else 1) +
  (if n.elems ≤ c.elems then 0 else 1) + (if n.fields ≤ c.fields then 0 else 1)

/-- capacities after the write: never smaller than before, at least what was needed -/
def after (c : Caps) (n : Need) : Caps :=
  { buf := max c.buf n.buf, stack := max c.stack n.stack, elems := max c.elems n.elems, fields := max c.fields n.fields }

def le (a b : Caps) : Prop := a.buf ≤ b.buf ∧ a.stack ≤ b.stack ∧ a.elems ≤ b.elems ∧ a.fields ≤ b.fields

theorem after_mono (c : Caps) (n : Need) : le c (after c n) := by
  unfold le after; simp only; omega

theorem after_covers (c : Caps) (n : Need) : le n (after c n) := by
  unfold le after; simp only; omega

theorem allocs_zero_of_le {c : Caps} {n : Need} (h : le n c) : allocs c n = 0 := by
  obtain ⟨a, b, d, e⟩ := h
  simp [allocs, a, b, d, e]

theorem steady_state_zero (c : Caps) (n : Need) : allocs (after c n) n = 0 :=
  allocs_zero_of_le (after_covers c n)

def runAll (c : Caps) : List Need → Caps
  | [] => c
  | n :: ns => runAll (after c n) ns

theorem le_trans' {a b c : Caps} (h1 : le a b) (h2 : le b c) : le a c := by
  unfold le at *; omega

theorem runAll_mono (c : Caps) (ns : List Need) : le c (runAll c ns) := by
  induction ns generalizing c with
  | nil => unfold le; simp [runAll]
  | cons n ns ih => exact le_trans' (after_mono c n) (ih (after c n))

theorem runAll_covers (c : Caps) (ns : List Need) (n : Need) (h : n ∈ ns) : le n (runAll c ns) := by
  induction ns generalizing c with
  | nil => cases h
  | cons m ms ih =>
    rcases List.mem_cons.mp h with e | e
    · subst e; exact le_trans' (after_covers c n) (runAll_mono _ ms)
    · exact ih (after c m) e

theorem warmup_once (c : Caps) (ns : List Need) (n : Need) (h : n ∈ ns) (c' : Caps) (hc : le (runAll c ns) c') :
    allocs c' n = 0 :=
  allocs_zero_of_le (le_trans' (runAll_covers c ns n h) hc)

/-- the number of allocating writes over a sequence -/
def allocatingWrites (c : Caps) : List Need → Nat
  | [] => 0
  | n :: ns => (if fits c n then 0 else 1) + allocatingWrites (after c n) ns

theorem allocatingWrites_zero_of_le : ∀ (ms : List Need) (d : Caps), (∀ m ∈ ms, le m d) → allocatingWrites d ms = 0
  | [], _, _ => rfl
  | m :: ms, d, h => by
    have hf : fits d m = true := by
      obtain ⟨a, b, e, f⟩ := h m (by simp)
      simp [fits, a, b, e, f]
    simp only [allocatingWrites, hf, ↓reduceIte, Nat.zero_add]
    exact allocatingWrites_zero_of_le ms (after d m)
      fun x hx => le_trans' (h x (by simp [hx])) (after_mono d m)

theorem second_pass_free (c : Caps) (ns : List Need) :
    allocatingWrites (runAll c ns) ns = 0 :=
  allocatingWrites_zero_of_le ns _ fun m hm => runAll_covers c ns m hm

example : allocs ⟨0, 14, 48, 48⟩ ⟨100, 20, 10, 300⟩ = 3 ∧ allocs (after ⟨0, 14, 48, 48⟩ ⟨100, 20, 10, 300⟩) ⟨100, 20, 10, 300⟩ = 0 := by
  decide

end SpecVerif.C17
