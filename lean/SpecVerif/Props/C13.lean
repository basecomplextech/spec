/-
C13 — Parse, open and size probe agree; decoding is local to the value.

Proved here (model of the repaired tree): every typed decoder, the table decoders and the recursive parser
(at the fuel the drivers use, for every input, prefix and nesting) are local; re-parsing the returned value
gives the same size; the parser's answers do not depend on fuel; whenever the parser accepts with size `n`,
the size probe reports exactly `n`, OpenValue returns exactly the last `n` bytes and the typed opens return
the message / list over exactly those bytes.  The converse (the probe accepts more than the parser, which
checks recursively) is by design; the `c13` stream checks the same agreement on the implementation.
-/

import SpecVerif.Lemmas.Agree
import SpecVerif.Wire.IEEE
namespace SpecVerif.C13
open SpecVerif Pinned

/-- the fuel the drivers use: sufficient for every input (C02.parseValue_safe) -/
def fuelFor (b : Bytes) : Nat := 2 * b.length + 2

theorem decoders_local (F : FloatOps) :
    LocalDec decodeBool ∧ LocalDec decodeByte ∧
    LocalDec decodeInt16 ∧ LocalDec decodeInt32 ∧ LocalDec decodeInt64 ∧
    LocalDec decodeUint16 ∧ LocalDec decodeUint32 ∧ LocalDec decodeUint64 ∧
    LocalDec (decodeFloat32 F) ∧ LocalDec (decodeFloat64 F) ∧
    LocalDec decodeBin64 ∧ LocalDec decodeBin128 ∧ LocalDec decodeBin256 ∧
    LocalDec decodeBytes ∧ LocalDec decodeString ∧ LocalDec decodeStruct ∧
    LocalDec decodeListTable ∧ LocalDec decodeMessageTable :=
  ⟨decodeBool_local, decodeByte_good.loc, decodeInt16_good.loc, decodeInt32_good.loc, decodeInt64_good.loc,
   decodeUint16_good.loc, decodeUint32_good.loc, decodeUint64_good.loc, (decodeFloat32_good F).loc,
   (decodeFloat64_good F).loc, decodeBin64_good.loc,
   decodeBin128_good.loc, decodeBin256_good.loc,
   decodeBytes_good.loc, decodeString_good.loc, decodeStruct_good.loc, decodeListTable_good.loc,
   decodeMessageTable_good.loc⟩

/-- Decoding is local (parser): if the recursive parser accepts `q ++ s` with size `|s|`, it accepts
`p ++ s` with size `|s|` for EVERY prefix `p` — adversarial varint-looking prefixes included. -/
theorem parse_local (F : FloatOps) (q p s : Bytes) (hs : s ≠ [])
    (h : parseValue F (fuelFor (q ++ s)) (q ++ s) = .ok s.length) :
    parseValue F (fuelFor (p ++ s)) (p ++ s) = .ok s.length := by
  -- move both sides to a common fuel
  let g := max (fuelFor (q ++ s)) (fuelFor (p ++ s))
  have h1 : parseValue F g (q ++ s) = .ok s.length :=
    parseValue_fuel_mono F _ g (Nat.le_max_left _ _) _ _ h (by simp)
  have h2 : parseValue F g (p ++ s) = .ok s.length := parseValue_local F g q p s hs h1
  -- and back: at its own fuel the parser does not panic (C02), so its answer is the stable one
  have hne := (SpecVerif.parseValue_safe F (fuelFor (p ++ s)) (p ++ s) (by unfold fuelFor; omega)).ne_panic
  exact (parseValue_fuel_mono F _ g (Nat.le_max_right _ _) _ _ rfl hne).symm.trans h2

/-- … in the form of the property statement: the accepted value is the last `n` bytes, and any
buffer ending in those bytes parses to the same size. -/
theorem parse_depends_only_on_value (F : FloatOps) (b : Bytes) (n : Nat)
    (h : parseValue F (fuelFor b) b = .ok n) (hn : 0 < n) :
    ∀ p, parseValue F (fuelFor (p ++ lastN n b)) (p ++ lastN n b) = .ok n := by
  have hsafe := SpecVerif.parseValue_safe F (fuelFor b) b (by unfold fuelFor; omega)
  rw [h] at hsafe; simp at hsafe
  have hl : (lastN n b).length = n := by simp; omega
  have hne : lastN n b ≠ [] := by intro h0; rw [h0] at hl; simp at hl; omega
  intro p
  have := parse_local F (dropLastN n b) p (lastN n b) hne (by rw [dropLastN_lastN, hl]; exact h)
  rw [hl] at this; exact this

theorem reparse (F : FloatOps) (b : Bytes) (n : Nat)
    (h : parseValue F (fuelFor b) b = .ok n) (hn : 0 < n) :
    parseValue F (fuelFor (lastN n b)) (lastN n b) = .ok n := by
  simpa using parse_depends_only_on_value F b n h hn []

/-- The answers of the parser do not depend on the fuel (termination is not an artefact of the
bound): any two sufficient fuels give the same answer. -/
theorem fuel_irrelevant (F : FloatOps) (b : Bytes) (f : Nat) (hf : fuelFor b ≤ f) :
    parseValue F f b = parseValue F (fuelFor b) b :=
  parseValue_fuel_mono F _ f hf b _ rfl
    (SpecVerif.parseValue_safe F (fuelFor b) b (by unfold fuelFor; omega)).ne_panic

/-! non-vacuity: the input that the unrepaired code accepted position-dependently is rejected,
and a concrete accepted value satisfies the hypotheses -/
example : decodeInt32 [0xfd, 11] = .err .data 0 := by decide
example : decodeInt32 ([1, 2, 0xfd] ++ [7, 11]) = .ok (-4, 2) := by decide

theorem parse_probe_agree (F : FloatOps) (fuel : Nat) (b : Bytes) (n : Nat)
    (h : parseValue F fuel b = .ok n) : ∃ t, decodeTypeSize b = .ok (t, n) :=
  (SpecVerif.parse_probe_agree F fuel b n h).2

theorem parse_open_agree (F : FloatOps) (fuel : Nat) (b : Bytes) (n : Nat)
    (h : parseValue F fuel b = .ok n) (hn : n ≤ b.length) : openValue b = .ok (lastN n b) := by
  obtain ⟨t, ht⟩ := parse_probe_agree F fuel b n h
  unfold openValue
  rw [ht]
  have : ¬ b.length < n := by omega
  simp only [this, ↓reduceIte, suffix]

/-- the typed opens, with and without an error result, return the table the parser decoded over exactly the
last `n` bytes — never an empty or shorter view -/
theorem parse_openMessage_agree (F : FloatOps) (fuel : Nat) (b : Bytes) (n : Nat)
    (h : parseMessage F fuel b = .ok n) :
    ∃ t, decodeMessageTable b = .ok (t, n) ∧ n ≤ b.length ∧
      openMessageErr b = .ok ⟨t, lastN n b⟩ ∧ openMessage b = .ok ⟨t, lastN n b⟩ := by
  obtain ⟨t, ht, hn⟩ := parseContainer_size (parseMessage_eq F ▸ h)
  have he : openMessageErr b = .ok ⟨t, lastN n b⟩ := by
    simp only [openMessageErr, ht, suffix_ok b n hn]; rfl
  exact ⟨t, ht, hn, he, by simp only [openMessage, he]⟩

theorem parse_openList_agree (F : FloatOps) (fuel : Nat) (b : Bytes) (n : Nat)
    (h : parseList F fuel b = .ok n) :
    ∃ t, decodeListTable b = .ok (t, n) ∧ n ≤ b.length ∧
      openListErr b = .ok ⟨t, lastN n b⟩ ∧ openList b = .ok ⟨t, lastN n b⟩ := by
  obtain ⟨t, ht, hn⟩ := parseContainer_size (parseList_eq F ▸ h)
  have he : openListErr b = .ok ⟨t, lastN n b⟩ := by
    simp only [openListErr, ht, suffix_ok b n hn]; rfl
  exact ⟨t, ht, hn, he, by simp only [openList, he]⟩

/-- non-vacuity: the empty message `00 00 50` is accepted with size 3 and opens with all 3 bytes -/
example : parseMessage IEEE.ieee 4 [0, 0, 0x50] = .ok 3 := by
  have h1 : decodeMessageTable [0, 0, 0x50] = .ok (⟨[], 0, false⟩, 3) := by decide
  have h2 : suffix [0, 0, 0x50] 3 = .ok [0, 0, 0x50] := by decide
  simp only [parseMessage, h1, h2]
  have h3 : MsgV.fields ⟨⟨[], 0, false⟩, [0, 0, 0x50]⟩ = 0 := by decide
  rw [h3]; simp only [parseMsgFields]

example : (openMessage [0, 0, 0x50]).bind (fun m => .ok m.bytes) = .ok [0, 0, 0x50] := by decide

end SpecVerif.C13
