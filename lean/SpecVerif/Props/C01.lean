/-
C01 — Writer-to-reader round trip preserves every value tree.

The layout the writer produces is `encList`/`encMsg` applied to the encoded children (tied to the
implementation on every run: the drivers compare writer model, reference layout and Go bytes).
The theorems hold for every value tree over that layout — `Valid b`: all 15 scalar kinds, lists and messages of
any size, count and nesting — behind every prefix, in both table forms: the proofs split on
`isBigList`/`isBigMessage`, i.e. on both sides of 255/256 elements, tags 255/256 and offsets 65535/65536.
`writer_refines_layout`: the writer state machine of Writer/Model.lean + Writer/Api.lean (the model the
differential stream compares with the Go writer call by call), driven by the API program of ANY value tree
(`compRoot`: any width, depth, write order and initial buffer content), returns exactly that layout
(Lemmas/WriterRefine.lean, Lemmas/WriterProgram.lean: mutual induction over trees).
Raw copies enter the tree as leaves (`Any`); Copy/Merge (`copyMsg`) is `C16.copy_preserves`.
-/
import SpecVerif.Lemmas.ValidParse
import SpecVerif.Lemmas.WriterTree
namespace SpecVerif.C01
open SpecVerif Pinned

/-- the parser consumes exactly the bytes produced, behind any prefix -/
theorem parse_exact (F : FloatOps) (L : C10.FloatLaws F) (b : Bytes) (hv : Valid b) (q : Bytes) :
    parseValue F (2 * (q ++ b).length + 2) (q ++ b) = .ok b.length :=
  valid_parse F L b hv q _ (by simp only [List.length_append]; omega)

/-- the probe and the non-recursive open delimit a written value exactly -/
theorem probe_exact (b : Bytes) (hv : Valid b) (q : Bytes) :
    (∃ t, decodeTypeSize (q ++ b) = .ok (t, b.length)) ∧ openValue (q ++ b) = .ok b :=
  ⟨(valid_delim b hv).2 q, openValue_of_delim b (valid_delim b hv) q⟩

/-- every element at its index; `Len` = number of elements; small and big table form -/
theorem list_roundtrip (p : Bytes) (l : List Bytes) (e : Bytes) (r : List Bytes)
    (hsz : (l ++ e :: r).flatten.length + 4 * (l ++ e :: r).length < 2 ^ 32) :
    ∃ L, openListErr (p ++ encList (l ++ e :: r)) = .ok L ∧ L.len = (l ++ e :: r).length ∧
      L.getBytes l.length = .ok e :=
  ⟨_, openListErr_enc p _ hsz, listV_len _, getBytes_split l e r hsz⟩

/-- every field is found under its tag with exactly the written bytes, for every write order
(`l`, `r` arbitrary) and every tag below 2^16 -/
theorem msg_field_found (p : Bytes) (l : List (Nat × Bytes)) (tag : Nat) (v : Bytes)
    (r : List (Nat × Bytes)) (wf : MsgWF (l ++ (tag, v) :: r)) (hv : Delim v) :
    ∃ M, openMessageErr (p ++ encMsg (l ++ (tag, v) :: r)) = .ok M ∧
      M.fields = (l ++ (tag, v) :: r).length ∧
      M.hasField tag = .ok true ∧ M.field tag = .ok v := by
  obtain ⟨hraw, hhas⟩ := msgV_fieldRaw l tag v r wf
  refine ⟨_, openMessageErr_enc p _ wf, msgV_fields _, hhas, ?_⟩
  rw [MsgV.field, hraw]
  exact openValue_field v hv

/-- a tag that was not written is absent: `HasField` is false and the field reads as nil -/
theorem msg_field_absent (p : Bytes) (fs : List (Nat × Bytes)) (wf : MsgWF fs) (tag : Nat)
    (habs : tag ∉ fs.map (·.1)) :
    ∃ M, openMessageErr (p ++ encMsg fs) = .ok M ∧ M.hasField tag = .ok false ∧ M.field tag = .ok [] := by
  have ho := msgV_offset_none fs wf tag habs
  exact ⟨_, openMessageErr_enc p fs wf, by rw [MsgV.hasField, ho],
    by rw [MsgV.field, MsgV.fieldRaw, ho]; rfl⟩

/-- no other tag is present: the table enumerates exactly as many entries as fields were written and
each entry is one of the written `(tag, end offset)` pairs -/
theorem msg_enumerates_written (p : Bytes) (fs : List (Nat × Bytes)) (wf : MsgWF fs) :
    ∃ M, openMessageErr (p ++ encMsg fs) = .ok M ∧ M.fields = fs.length ∧
      ∀ i, i < fs.length → ∃ tag o, (tag, o) ∈ msgPairs fs ∧ M.tagAt i = .ok (some tag) := by
  refine ⟨_, openMessageErr_enc p fs wf, msgV_fields fs, fun i hi => ?_⟩
  have hi' : i < (sortedEntries (msgPairs fs)).length := by rw [sortedEntries_msgPairs_length]; exact hi
  exact ⟨_, _, (sortedEntries_perm _).mem_iff.mp (List.getElem_mem hi'),
    by rw [MsgV.tagAt, (msgV_entry fs wf i hi').1]; rfl⟩

/-- absent fields decode as the zero value with size 0 through every typed accessor -/
theorem absent_reads_zero (F : FloatOps) :
    decodeBool [] = .ok (false, 0) ∧ decodeByte [] = .ok (0, 0) ∧ decodeInt16 [] = .ok (0, 0) ∧
    decodeInt32 [] = .ok (0, 0) ∧ decodeInt64 [] = .ok (0, 0) ∧ decodeUint16 [] = .ok (0, 0) ∧
    decodeUint32 [] = .ok (0, 0) ∧ decodeUint64 [] = .ok (0, 0) ∧ decodeFloat32 F [] = .ok (0, 0) ∧
    decodeFloat64 F [] = .ok (0, 0) ∧ decodeBytes [] = .ok ([], 0) ∧ decodeString [] = .ok ([], 0) ∧
    decodeBin64 [] = .ok ([], 0) :=
  ⟨rfl, rfl, rfl, rfl, rfl, rfl, rfl, rfl, rfl, rfl, rfl, rfl, rfl⟩

/-- the writer emits the layout: every call of the tree's program is answered `ok`, the final Build
returns `enc` of the tree and records it as the built value -/
theorem writer_refines_layout (n : Writer.Node) (buf : Bytes) :
    Writer.BuiltLast (Writer.run (Writer.compRoot n) buf) n.enc :=
  Writer.run_compRoot n buf

/-- write then read: the bytes the writer builds for a well-formed tree parse with exactly their
size and are delimited exactly, behind every prefix `q` -/
theorem written_tree_reads_back (F : FloatOps) (L : C10.FloatLaws F) (n : Writer.Node) (hn : n.OK)
    (buf q : Bytes) :
    ∃ b, (Writer.run (Writer.compRoot n) buf).1.built = some b ∧
      parseValue F (2 * (q ++ b).length + 2) (q ++ b) = .ok b.length ∧ openValue (q ++ b) = .ok b :=
  ⟨n.enc, (writer_refines_layout n buf).1, parse_exact F L n.enc (Writer.Node.valid n hn) q,
    (probe_exact n.enc (Writer.Node.valid n hn) q).2⟩

/-- the same without any hypothesis about the platform's float conversions: for the bit-level IEEE
model the drivers run (laws proved in Lemmas/IEEE.lean) -/
theorem written_tree_reads_back_ieee (n : Writer.Node) (hn : n.OK) (buf q : Bytes) :
    ∃ b, (Writer.run (Writer.compRoot n) buf).1.built = some b ∧
      parseValue IEEE.ieee (2 * (q ++ b).length + 2) (q ++ b) = .ok b.length ∧ openValue (q ++ b) = .ok b :=
  written_tree_reads_back IEEE.ieee C10.ieee_laws n hn buf q

/-! ### non-vacuity: boundary instances on both sides of the table forms -/

/-- a concrete nested program: message { 2: [true, {}], 1: 7 } written with tag 2 before tag 1 -/
example :
    Writer.compRoot (.msg (.cons 2 (.list (.cons (.leaf (encBool true)) (.cons (.msg .nil) .nil)))
      (.cons 1 (.leaf (encByte 7)) .nil))) =
    [.msg, .flist 0 2, .e 1 (encBool true), .emsg 1, .end_ 2, .end_ 1, .f 0 1 (encByte 7), .build 0] := by
  rfl

example : Valid (encList [encInt32 5, encString [97, 98]]) :=
  .list _ (by intro e he; simp at he; rcases he with h | h <;> subst h
              · exact .i32 5 (by decide)
              · exact .str _ (by decide)) (by decide)

/-- tag 255 stays in the small form, tag 256 forces the big form -/
example : isBigMessage (sortedEntries (msgPairs [(255, encBool true)])) = false := by decide
example : isBigMessage (sortedEntries (msgPairs [(256, encBool true)])) = true := by decide
example : MsgWF [(256, encBool true), (1, encByte 7)] :=
  ⟨by decide, by intro f hf; simp at hf; rcases hf with h | h <;> subst h <;> decide, by decide⟩

end SpecVerif.C01
