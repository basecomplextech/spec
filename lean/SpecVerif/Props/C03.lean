/-
C03 — MPX channels deliver messages exactly once, in order, uncorrupted.

Two layers, both for every schedule of any length, any number of channels multiplexed on the
connection, any payloads:
 * framing (`Mpx/Frame.lean`): the reader returns exactly the written messages in order
   (`frames_roundtrip`), and whatever prefix of the byte stream has arrived it delivers a prefix of
   the messages and never a partial frame (`frames_cut`, also the basis of C09);
 * delivery (`Mpx/Delivery.lean`): what Receive returned on a channel, followed by what is queued
   for it and what is still in the write queue or on the wire, is exactly what the sender passed to
   Send/SendAndClose on THAT channel (`conservation`); hence delivered is always a prefix of sent
   — same bytes, same order, no duplication, nothing from another channel (`delivered_prefix`);
   and once the close frame has been dispatched and the queue drained, delivered = sent
   (`complete_after_close`).
Compression is outside the model (lz4 is assumed to satisfy decompress ∘ compress = id on the
stream; the scenario check runs with lz4 on and off).
-/
import SpecVerif.Lemmas.Frames
import SpecVerif.Mpx.Delivery
namespace SpecVerif.C03
open SpecVerif SpecVerif.Mpx

/-! ### framing -/

theorem frames_roundtrip (ms : List Bytes) (hm : ∀ m ∈ ms, m.length < 2 ^ 32) :
    Frame.readAll (ms.length + 1) (Frame.stream ms) = (ms, []) := by
  simpa using Frame.readAll_stream ms hm (ms.length + 1) (by omega) [] (by simp [Frame.readOne])

theorem frames_cut (ms : List Bytes) (hm : ∀ m ∈ ms, m.length < 2 ^ 32) (k : Nat) :
    ∃ j, (Frame.readAll (ms.length + 1) ((Frame.stream ms).take k)).1 = ms.take j :=
  Frame.cut_delivers_prefix ms hm k (ms.length + 1) (by omega)

open Delivery

/-! ### delivery: `upd` and `payloads` -/

@[simp] theorem upd_same {α} (f : Nat → α) (c : Nat) (v : α) : upd f c v c = v := by simp [upd]
theorem upd_other {α} {f : Nat → α} {c x : Nat} {v : α} (h : x ≠ c) : upd f c v x = f x := by simp [upd, h]

/-- the messages a payload contributes: none when it is empty -/
def msg (d : Bytes) : List Bytes := if d = [] then [] else [d]

theorem payloads_append (c : Nat) (a b : List Fr) : payloads c (a ++ b) = payloads c a ++ payloads c b := by
  simp [payloads]

theorem payloads_cons_same (c : Nat) (f : Fr) (l : List Fr) (h : f.ch = c) :
    payloads c (f :: l) = msg f.data ++ payloads c l := by
  unfold payloads msg
  by_cases hd : f.data = [] <;> simp [h, hd]

theorem payloads_filter (c : Nat) (l : List Fr) : payloads c (l.filter (·.ch = c)) = payloads c l := by
  unfold payloads
  rw [List.filter_filter]
  congr 2
  funext f
  by_cases h : f.ch = c <;> simp [h]

/-! ### the invariant, per channel -/

def transit (c : Nat) (s : State) : List Fr := (s.wire ++ s.writeq).filter (·.ch = c)

/-- invariant for one channel `c` (all other channels only contribute frames that are filtered out) -/
structure Inv (c : Nat) (s : State) : Prop where
  cons : s.ended c = false → s.closedB c = false →
    s.sent c = s.delivered c ++ s.recvq c ++ payloads c (s.wire ++ s.writeq)
  closed_all : s.ended c = false → s.closedB c = true →
    s.sent c = s.delivered c ++ s.recvq c ∧ ∀ f ∈ s.wire ++ s.writeq, f.ch ≠ c
  pre : ∃ rest, s.sent c = s.delivered c ++ s.recvq c ++ rest
  /-- a close frame of `c` is the last frame of `c` in the queues -/
  close_last : ∀ pre f post, s.wire ++ s.writeq = pre ++ f :: post → f.ch = c → f.close = true →
    ∀ g ∈ post, g.ch ≠ c
  open_no_close : s.sclosed c = false → s.closedB c = false ∧ ∀ f ∈ s.wire ++ s.writeq, f.ch = c → f.close = false

/-- `Inv c s` as a statement about what `s` holds for channel `c`: the per-channel values and the
frames of `c` in transit, `q`. Every step either leaves all of these alone or is one of the five
single-channel moves below. -/
structure InvV (c : Nat) (sent : List Bytes) (sclosed : Bool) (q : List Fr) (recvq : List Bytes)
    (closedB ended : Bool) (delivered : List Bytes) : Prop where
  cons : ended = false → closedB = false → sent = delivered ++ recvq ++ payloads c q
  closed_all : ended = false → closedB = true → sent = delivered ++ recvq ∧ q = []
  pre : ∃ rest, sent = delivered ++ recvq ++ rest
  close_last : q.Pairwise fun f _ => f.close = false
  open_no_close : sclosed = false → closedB = false ∧ ∀ f ∈ q, f.close = false

/-- the clause `Inv.close_last`, said about the frames of `c` alone -/
theorem closeLast_iff (c : Nat) (l : List Fr) :
    (∀ pre f post, l = pre ++ f :: post → f.ch = c → f.close = true → ∀ g ∈ post, g.ch ≠ c) ↔
    (l.filter (·.ch = c)).Pairwise fun f _ => f.close = false := by
  rw [List.pairwise_filter]
  constructor
  · intro h
    induction l with
    | nil => exact .nil
    | cons a l ih =>
      refine List.pairwise_cons.mpr ⟨fun b hb ha hbc => ?_, ih fun pre f post e => h (a :: pre) f post (e ▸ rfl)⟩
      cases hcl : a.close
      · rfl
      · exact absurd (by simpa using hbc) (h [] a l rfl (by simpa using ha) hcl b hb)
  · rintro h pre f post rfl hf hcl g hg hgc
    have := List.rel_of_pairwise_cons (List.pairwise_append.mp h).2.1 hg (by simpa using hf) (by simpa using hgc)
    rw [hcl] at this; cases this

theorem inv_iff {c : Nat} {s : State} : Inv c s ↔
    InvV c (s.sent c) (s.sclosed c) (transit c s) (s.recvq c) (s.closedB c) (s.ended c) (s.delivered c) := by
  have hp : payloads c (transit c s) = payloads c (s.wire ++ s.writeq) := payloads_filter c _
  have hnil : transit c s = [] ↔ ∀ f ∈ s.wire ++ s.writeq, f.ch ≠ c := by
    simp only [transit, List.filter_eq_nil_iff, decide_eq_true_eq]
  have hmem : (∀ f ∈ transit c s, f.close = false) ↔ ∀ f ∈ s.wire ++ s.writeq, f.ch = c → f.close = false := by
    simp only [transit, List.mem_filter, decide_eq_true_eq, and_imp]
  constructor
  · rintro ⟨h1, h2, h3, h4, h5⟩
    exact ⟨hp ▸ h1, by simpa only [hnil] using h2, h3, (closeLast_iff c _).mp h4, by simpa only [hmem] using h5⟩
  · rintro ⟨h1, h2, h3, h4, h5⟩
    exact ⟨hp ▸ h1, by simpa only [hnil] using h2, h3, (closeLast_iff c _).mpr h4, by simpa only [hmem] using h5⟩

theorem inv_congr {c : Nat} {s t : State} (hi : Inv c s) (h1 : t.sent c = s.sent c)
    (h2 : t.sclosed c = s.sclosed c) (h3 : transit c t = transit c s) (h4 : t.recvq c = s.recvq c)
    (h5 : t.closedB c = s.closedB c) (h6 : t.ended c = s.ended c) (h7 : t.delivered c = s.delivered c) :
    Inv c t := by
  rw [inv_iff] at hi ⊢
  rwa [h1, h2, h3, h4, h5, h6, h7]

/-! ### the five moves of a channel -/

section moves
variable {c : Nat} {S R D : List Bytes} {SC CB E : Bool} {Q : List Fr}

theorem InvV.send (h : InvV c S false Q R CB E D) (d : Bytes) (cl : Bool) :
    InvV c (S ++ msg d) cl (Q ++ [⟨c, d, cl⟩]) R CB E D := by
  obtain ⟨hcb, hnc⟩ := h.open_no_close rfl
  obtain ⟨rest, hr⟩ := h.pre
  exact {
    cons := fun he _ => by rw [h.cons he hcb, payloads_append, payloads_cons_same c _ _ rfl]; simp [payloads]
    closed_all := fun _ hb => nomatch hcb.symm.trans hb
    pre := ⟨rest ++ msg d, by rw [hr]; simp⟩
    close_last := List.pairwise_append.mpr ⟨h.close_last, List.pairwise_singleton .., fun f hf _ _ => hnc f hf⟩
    open_no_close := fun hcl => ⟨hcb, fun f hf => by
      rcases List.mem_append.mp hf with h1 | h1
      · exact hnc f h1
      · rw [List.mem_singleton.mp h1]; exact hcl⟩ }

theorem InvV.drop {f : Fr} (h : InvV c S SC (f :: Q) R CB E D) (hd : E = true ∨ CB = true) :
    InvV c S SC Q R CB E D :=
  { h with
    cons := fun he hb => by rcases hd with h1 | h1 <;> simp_all
    closed_all := fun he hb => nomatch (h.closed_all he hb).2
    close_last := (List.pairwise_cons.mp h.close_last).2
    open_no_close := fun hs => ⟨(h.open_no_close hs).1, fun g hg => (h.open_no_close hs).2 g (List.mem_cons_of_mem _ hg)⟩ }

theorem InvV.deliver {f : Fr} (h : InvV c S SC (f :: Q) R false false D) (hf : f.ch = c) :
    InvV c S SC Q (R ++ msg f.data) f.close false D := by
  have hc0 := h.cons rfl rfl
  rw [payloads_cons_same c f Q hf] at hc0
  exact {
    cons := fun _ _ => by rw [hc0]; simp
    closed_all := fun _ hcl => by
      have hQ : Q = [] := by
        cases Q with
        | nil => rfl
        | cons g Q => exact absurd hcl (by simp [List.rel_of_pairwise_cons h.close_last (List.mem_cons_self ..)])
      exact ⟨by rw [hc0, hQ]; simp [payloads], hQ⟩
    pre := ⟨payloads c Q, by rw [hc0]; simp⟩
    close_last := (List.pairwise_cons.mp h.close_last).2
    open_no_close := fun hs => ⟨(h.open_no_close hs).2 f (List.mem_cons_self ..),
      fun g hg => (h.open_no_close hs).2 g (List.mem_cons_of_mem _ hg)⟩ }

theorem InvV.receive {m : Bytes} (h : InvV c S SC Q (m :: R) CB E D) : InvV c S SC Q R CB E (D ++ [m]) :=
  { h with
    cons := fun he hb => by rw [h.cons he hb]; simp
    closed_all := fun he hb => ⟨by rw [(h.closed_all he hb).1]; simp, (h.closed_all he hb).2⟩
    pre := h.pre.imp fun _ hr => by rw [hr]; simp }

theorem InvV.end_ (h : InvV c S SC Q R CB E D) : InvV c S SC Q R CB true D :=
  { h with cons := nofun, closed_all := nofun }

end moves

/-! ### every step is one of the moves on its channel and leaves the others alone -/

theorem inv_init (c : Nat) : Inv c init := by
  constructor <;> simp [init, payloads]

/- The two forms in which `step` writes a per-channel field, read at channel `x`. -/

theorem ite_upd_append (r : Nat → List Bytes) (c x : Nat) (d : Bytes) :
    (if d = [] then r else upd r c (r c ++ [d])) x = if x = c then r x ++ msg d else r x := by
  unfold msg; split <;> simp_all [upd]

theorem ite_upd_true (b : Nat → Bool) (c x : Nat) (cl : Bool) :
    (if cl = true then upd b c true else b) x = if x = c then (cl || b x) else b x := by
  split <;> simp_all [upd]

theorem inv_step (c : Nat) (s s' : State) (a : Action) (hi : Inv c s) (h : step s a = some s') : Inv c s' := by
  have hv := inv_iff.mp hi
  cases a with
  | send c' d cl =>
    simp only [step, Option.ite_none_left_eq_some, Option.some.injEq] at h
    obtain ⟨hsc, rfl⟩ := h
    by_cases hc : c' = c
    · subst hc
      rw [Bool.not_eq_true] at hsc
      rw [hsc] at hv
      refine inv_iff.mpr ?_
      simpa [transit, ite_upd_append, ite_upd_true, hsc] using hv.send d cl
    · refine inv_congr hi ?_ ?_ ?_ rfl rfl rfl rfl
      · simp [ite_upd_append, Ne.symm hc]
      · simp [ite_upd_true, Ne.symm hc]
      · simp [transit, hc]
  | transmit =>
    simp only [step] at h
    split at h <;> cases h
    next f rest hw => exact inv_congr hi rfl rfl (by simp [transit, hw]) rfl rfl rfl rfl
  | dispatch =>
    simp only [step] at h
    split at h
    next f rest hw =>
      have hq : transit c s = (if f.ch = c then [f] else []) ++ (rest ++ s.writeq).filter (·.ch = c) := by
        simp only [transit, hw, List.cons_append, List.filter_cons, decide_eq_true_eq]; split <;> rfl
      by_cases hfc : f.ch = c
      · rw [if_pos hfc] at hq
        rw [hq] at hv
        split at h <;> cases h
        next hd =>
          rw [hfc] at hd
          exact inv_iff.mpr (hv.drop (by simpa using hd))
        next hd =>
          rw [hfc, not_or, Bool.not_eq_true, Bool.not_eq_true] at hd
          rw [hd.1, hd.2] at hv
          refine inv_iff.mpr ?_
          simpa [transit, ite_upd_append, ite_upd_true, hfc, hd] using hv.deliver hfc
      · rw [if_neg hfc] at hq
        split at h <;> cases h
        · exact inv_congr hi rfl rfl hq.symm rfl rfl rfl rfl
        · exact inv_congr hi rfl rfl hq.symm (by simp [ite_upd_append, Ne.symm hfc])
            (by simp [ite_upd_true, Ne.symm hfc]) rfl rfl
    · cases h
  | receive c' =>
    simp only [step] at h
    split at h <;> cases h
    next m rest hr =>
      by_cases hc : c' = c
      · subst hc
        rw [hr] at hv
        refine inv_iff.mpr ?_
        simpa [transit] using hv.receive
      · exact inv_congr hi rfl rfl rfl (upd_other (Ne.symm hc)) rfl rfl (upd_other (Ne.symm hc))
  | endLocal c' =>
    cases h
    by_cases hc : c' = c
    · subst hc
      refine inv_iff.mpr ?_
      simpa [transit] using hv.end_
    · exact inv_congr hi rfl rfl rfl rfl rfl (upd_other (Ne.symm hc)) rfl

theorem inv_run (c : Nat) (s : State) (hi : Inv c s) (as : List Action) : Inv c (run s as) := by
  induction as generalizing s with
  | nil => exact hi
  | cons a as ih =>
    simp only [run]
    cases h : step s a with
    | none => exact ih s hi
    | some s' => exact ih s' (inv_step c s s' a hi h)

/-! ### what the invariant gives -/

theorem conservation (c : Nat) (as : List Action) :
    let s := run init as
    s.ended c = false → s.closedB c = false →
    s.sent c = s.delivered c ++ s.recvq c ++ payloads c (s.wire ++ s.writeq) :=
  (inv_run c _ (inv_init c) as).cons

theorem delivered_prefix (c : Nat) (as : List Action) :
    (run init as).delivered c <+: (run init as).sent c := by
  obtain ⟨rest, h⟩ := (inv_run c _ (inv_init c) as).pre
  exact ⟨(run init as).recvq c ++ rest, by rw [h]; simp⟩

/-- `hb` and `hq`: the situation in which Receive returns End -/
theorem complete_after_close (c : Nat) (as : List Action)
    (he : (run init as).ended c = false) (hb : (run init as).closedB c = true)
    (hq : (run init as).recvq c = []) :
    (run init as).delivered c = (run init as).sent c := by
  have := ((inv_run c _ (inv_init c) as).closed_all he hb).1
  rw [hq] at this; simpa using this.symm

end SpecVerif.C03
