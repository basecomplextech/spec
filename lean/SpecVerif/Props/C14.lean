/-
C14 — Compiler output always compiles; invalid schemas are rejected cleanly.

What is proved here is the "rules" half of the property, on the model `wfBundle` (Lang/Check.lean)
whose verdict is compared with the compiler's on every generated, mutated and damaged schema:
for EVERY bundle, package, file and definition, a schema that breaks one of the rules the property
names is rejected (the `…_rejected` theorems, one per rule), and conversely `fieldsOK_iff` /
`enumOK_iff` state exactly which field lists and enums are accepted.
The other half ("accepted schemas produce code the Go compiler accepts", "never panics or hangs")
cannot be a theorem about this model: it is decided by running the compiler and `go build` on every
accepted schema of the stream (see DESIGN.md §4/C14).
-/
import SpecVerif.Lang.Check
namespace SpecVerif.C14
open SpecVerif.Lang

theorem nodup_iff {α : Type} [DecidableEq α] (xs : List α) : nodup xs = true ↔ xs.Nodup := by
  simp [nodup]

/-- the type of a field resolves to something that is not a service -/
def TypeOK (b : Bundle) (p : Pkg) (f : File) (t : Ty) : Prop :=
  ∃ k, resolveBase b p f (tyBase t) = some k ∧ ∀ s, k ≠ .service s

theorem typeOK_iff (b : Bundle) (p : Pkg) (f : File) (t : Ty) : typeOKb b p f t = true ↔ TypeOK b p f t := by
  unfold typeOKb TypeOK
  cases hr : resolveBase b p f (tyBase t) with
  | none => simp
  | some k => cases k <;> simp

/-! Each `…OK` function is a conjunction of rules; its `_iff` lemma lists them, and a schema that
breaks one of them is rejected because acceptance would imply it. -/

theorem fieldsOK_iff (b : Bundle) (p : Pkg) (f : File) (fs : List Field) :
    fieldsOK b p f fs = true ↔
      (fs.map (·.name)).Nodup ∧ (fs.map (·.tag)).Nodup ∧
      ∀ fd ∈ fs, 1 ≤ fd.tag ∧ fd.tag ≤ 65535 ∧ TypeOK b p f fd.ty := by
  simp only [fieldsOK, Bool.and_eq_true, nodup_iff, List.all_eq_true, decide_eq_true_eq, typeOK_iff, and_assoc]

theorem dup_tag_rejected (b : Bundle) (p : Pkg) (f : File) (fs : List Field)
    (h : ¬ (fs.map (·.tag)).Nodup) : fieldsOK b p f fs = false :=
  Bool.eq_false_iff.mpr fun hh => h ((fieldsOK_iff b p f fs).mp hh).2.1

theorem dup_field_name_rejected (b : Bundle) (p : Pkg) (f : File) (fs : List Field)
    (h : ¬ (fs.map (·.name)).Nodup) : fieldsOK b p f fs = false :=
  Bool.eq_false_iff.mpr fun hh => h ((fieldsOK_iff b p f fs).mp hh).1

theorem zero_tag_rejected (b : Bundle) (p : Pkg) (f : File) (fs : List Field) (fd : Field)
    (hm : fd ∈ fs) (h : fd.tag = 0) : fieldsOK b p f fs = false :=
  Bool.eq_false_iff.mpr fun hh => by have := (((fieldsOK_iff b p f fs).mp hh).2.2 fd hm).1; omega

theorem tag_out_of_range_rejected (b : Bundle) (p : Pkg) (f : File) (fs : List Field) (fd : Field)
    (hm : fd ∈ fs) (h : 65535 < fd.tag) : fieldsOK b p f fs = false :=
  Bool.eq_false_iff.mpr fun hh => by have := (((fieldsOK_iff b p f fs).mp hh).2.2 fd hm).2.1; omega

theorem unknown_type_rejected (b : Bundle) (p : Pkg) (f : File) (fs : List Field) (fd : Field)
    (hm : fd ∈ fs) (h : resolveBase b p f (tyBase fd.ty) = none) :
    fieldsOK b p f fs = false :=
  Bool.eq_false_iff.mpr fun hh => by
    obtain ⟨k, hk, _⟩ := (((fieldsOK_iff b p f fs).mp hh).2.2 fd hm).2.2
    rw [h] at hk; cases hk

/-- a field or list element of a service type is rejected -/
theorem service_type_rejected (b : Bundle) (p : Pkg) (f : File) (fs : List Field) (fd : Field) (s : Bool)
    (hm : fd ∈ fs) (h : resolveBase b p f (tyBase fd.ty) = some (.service s)) :
    fieldsOK b p f fs = false :=
  Bool.eq_false_iff.mpr fun hh => by
    obtain ⟨k, hk, hs⟩ := (((fieldsOK_iff b p f fs).mp hh).2.2 fd hm).2.2
    rw [h] at hk; cases hk; exact hs s rfl

theorem enumOK_iff (vs : List EnumValue) :
    enumOK vs = true ↔ (vs.map (·.name)).Nodup ∧ (vs.map (·.value)).Nodup ∧
      (∃ v ∈ vs, v.value = 0) ∧ ∀ v ∈ vs, v.value ≤ 2147483647 := by
  simp only [enumOK, Bool.and_eq_true, nodup_iff, List.any_eq_true, List.all_eq_true, decide_eq_true_eq,
    beq_iff_eq, and_assoc]

theorem enum_no_zero_rejected (vs : List EnumValue) (h : ∀ v ∈ vs, v.value ≠ 0) : enumOK vs = false :=
  Bool.eq_false_iff.mpr fun hh => by
    obtain ⟨v, hv, h0⟩ := ((enumOK_iff vs).mp hh).2.2.1; exact h v hv h0

theorem enum_dup_number_rejected (vs : List EnumValue) (h : ¬ (vs.map (·.value)).Nodup) : enumOK vs = false :=
  Bool.eq_false_iff.mpr fun hh => h ((enumOK_iff vs).mp hh).2.1

theorem enum_dup_name_rejected (vs : List EnumValue) (h : ¬ (vs.map (·.name)).Nodup) : enumOK vs = false :=
  Bool.eq_false_iff.mpr fun hh => h ((enumOK_iff vs).mp hh).1

theorem enum_out_of_range_rejected (vs : List EnumValue) (v : EnumValue) (hm : v ∈ vs)
    (h : 2147483647 < v.value) : enumOK vs = false :=
  Bool.eq_false_iff.mpr fun hh => by have := ((enumOK_iff vs).mp hh).2.2.2 v hm; omega

theorem structOK_iff (b : Bundle) (p : Pkg) (f : File) (n : String) (fs : List SField) :
    structOK b p f n fs = true ↔ (fs.map (·.name)).Nodup ∧ (∀ sf ∈ fs, valueTypeOK b p f sf.ty = true) ∧
      structReaches b (p.id, n) (structCount b + 1) (p.id, n) = false := by
  simp only [structOK, Bool.and_eq_true, nodup_iff, List.all_eq_true, Bool.not_eq_true', and_assoc]

theorem struct_list_rejected (b : Bundle) (p : Pkg) (f : File) (n : String) (fs : List SField) (sf : SField) (t : BaseT)
    (hm : sf ∈ fs) (h : sf.ty = .list t) : structOK b p f n fs = false :=
  Bool.eq_false_iff.mpr fun hh => by
    have := ((structOK_iff b p f n fs).mp hh).2.1 sf hm
    rw [h] at this; cases this

theorem struct_message_rejected (b : Bundle) (p : Pkg) (f : File) (n : String) (fs : List SField) (sf : SField) (t : BaseT)
    (hm : sf ∈ fs) (h : sf.ty = .base t) (hr : resolveBase b p f t = some .message) :
    structOK b p f n fs = false :=
  Bool.eq_false_iff.mpr fun hh => by
    have := ((structOK_iff b p f n fs).mp hh).2.1 sf hm
    simp [h, valueTypeOK, hr] at this

/-- a struct with a field of its own type is rejected -/
theorem struct_self_rejected (b : Bundle) (p : Pkg) (f : File) (n : String) (fs : List SField) (sf : SField) (t : BaseT)
    (hfind : findStruct b p.id n = some (p, f, fs)) (hm : sf ∈ fs) (h : sf.ty = .base t)
    (hr : resolveBase b p f t = some (.struct p.id n)) : structOK b p f n fs = false :=
  Bool.eq_false_iff.mpr fun hh => by
    have := ((structOK_iff b p f n fs).mp hh).2.2
    simp only [structReaches, hfind, List.any_eq_false] at this
    simpa [h, hr] using this sf hm

theorem channel_non_message_rejected (b : Bundle) (p : Pkg) (f : File) (m : Method) (c : MChan) (o : Option MOutput)
    (ht : m.tail = .chan c o) (h : chanOK b p f c = false) : methodOK b p f m = false := by
  simp [methodOK, ht, h]

theorem input_non_message_rejected (b : Bundle) (p : Pkg) (f : File) (m : Method) (t : BaseT)
    (hi : m.input = .type t) (h : resolveBase b p f t ≠ some .message) : methodOK b p f m = false := by
  simp [methodOK, hi, h]

theorem dup_method_rejected (b : Bundle) (p : Pkg) (f : File) (sub : Bool) (n : String) (ms : List Method)
    (h : ¬ (ms.map (·.name)).Nodup) : defOK b p f (.service sub n ms) = false := by
  simp [defOK, nodup, h]

theorem dup_definition_rejected (b : Bundle) (p : Pkg) (h : ¬ (p.defs.map Def.name).Nodup) :
    pkgLocalOK b p = false := by
  have : ¬ (p.defs.map Def.name ++ p.generated).Nodup := fun hh => h (List.nodup_append.mp hh).1
  simp [pkgLocalOK, nodup, this]

theorem pkgOK_iff (b : Bundle) (fuel : Nat) (stack : List String) (id : String) :
    pkgOK b fuel stack id = true ↔ ∃ n p, fuel = n + 1 ∧ id ∉ stack ∧ findPkg b id = some p ∧
      (∀ pf ∈ p.files, ∀ im ∈ pf.file.imports, pkgOK b n (id :: stack) im.id = true) ∧ pkgLocalOK b p = true := by
  cases fuel with
  | zero => simp [pkgOK]
  | succ n =>
    by_cases hs : id ∈ stack
    · simp [pkgOK, hs]
    · cases hp : findPkg b id <;> simp [pkgOK, hs, hp]

theorem circular_import_rejected (b : Bundle) (fuel : Nat) (stack : List String) (id : String)
    (h : id ∈ stack) : pkgOK b fuel stack id = false :=
  Bool.eq_false_iff.mpr fun hh => by
    obtain ⟨_, _, _, hs, _⟩ := (pkgOK_iff b fuel stack id).mp hh; exact hs h

theorem missing_import_rejected (b : Bundle) (fuel : Nat) (stack : List String) (id : String)
    (h : findPkg b id = none) : pkgOK b fuel stack id = false :=
  Bool.eq_false_iff.mpr fun hh => by
    obtain ⟨_, _, _, _, hp, _⟩ := (pkgOK_iff b fuel stack id).mp hh; rw [h] at hp; cases hp

/-- a package that imports a package which does not compile does not compile -/
theorem bad_import_rejected (b : Bundle) (fuel : Nat) (stack : List String) (id : String) (p : Pkg)
    (hp : findPkg b id = some p) (pf : PFile) (hpf : pf ∈ p.files) (im : Import) (him : im ∈ pf.file.imports)
    (hbad : pkgOK b fuel (id :: stack) im.id = false) : pkgOK b (fuel + 1) stack id = false :=
  Bool.eq_false_iff.mpr fun hh => by
    obtain ⟨n, q, hn, _, hq, hall, _⟩ := (pkgOK_iff b (fuel + 1) stack id).mp hh
    cases hn; rw [hp] at hq; cases hq
    rw [hall pf hpf im him] at hbad; cases hbad

/-- non-vacuity: a two-package bundle with every kind of definition is accepted, and its mutants
are rejected -/
def dep : Pkg := { id := "dep", files := [⟨"f0", { imports := [], options := [], defs := [
    .enum "E" [⟨"Z", 0⟩, ⟨"A", 5⟩], .struct "S" [⟨"x", .base (.name "int32")⟩, ⟨"e", .base (.name "E")⟩],
    .message "D" [⟨"s", .base (.name "S"), 1⟩]] }⟩] }

def root : Pkg := { id := "root", files := [⟨"f0", { imports := [⟨"d", "dep"⟩], options := [⟨"go_package", "x/root"⟩], defs := [
    .message "M" [⟨"a", .base (.name "int32"), 1⟩, ⟨"b", .list (.ref "d" "D"), 65535⟩, ⟨"c", .base .any, 2⟩],
    .service true "Sub" [⟨"get", .type (.name "M"), .out (.type (.name "M"))⟩],
    .service false "Svc" [⟨"call", .type (.name "M"), .chan (.both (.base (.name "M")) (.base (.ref "d" "D"))) none⟩,
                           ⟨"sub", .fields [], .out (.type (.name "Sub"))⟩]] }⟩] }

example : wfBundle [root, dep] = true := by decide +kernel
example : wfBundle [{ root with files := root.files ++ [⟨"f1", { imports := [], options := [], defs := [.message "M" []] }⟩] }, dep] = false := by
  decide +kernel
example : wfBundle [root] = false := by decide +kernel          -- the import is missing

end SpecVerif.C14
