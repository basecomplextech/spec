/-
C11 — Server serves only negotiated connections and survives hostile peers.

 * `handlers_only_if_negotiated`: for every protocol line, every first frame and every frame
   sequence, a handler runs only if the line was the protocol line, the first frame was a connect
   request and it offered version 10 (`Mpx/Handshake.lean`, the repaired handshake: a refusal ends
   the connection — tied to the source by the regenerated event sequence of handshakeAsServer,
   whose refusal branch must return an error, `refusal_returns_error`).
 * `dispatch_total`: every parsed message is answered with OK or a connection error (no third
   outcome exists; nested batches, duplicate ids and unknown codes are connection errors, frames for
   unknown channels are dropped with OK); parsing itself never panics on any bytes (C02).
 * confinement: the dispatch state is per connection (`Conn`), no step of one connection reads or
   writes another one's state; shared pools are C18.
 * a peer cannot make the server read or allocate without bound (F25, F24): `line_bounded`,
   `line_decided`, `alloc_bounded`.
`unrepaired_refusal_served`: on the pinned code the refusal path returned the OK status of the
write, `run()` started the loops and an open frame got a handler.
-/
import SpecVerif.Mpx.Handshake
import SpecVerif.PinnedMpx
import SpecVerif.Mpx.Frame
namespace SpecVerif.C11
open SpecVerif.Mpx.Handshake

theorem serve_iff (line : String) (first : First) (lz4 : Bool) :
    serverHandshake line first = .serve lz4 →
      line = SpecVerif.Pinned.protocolLine ∧ ∃ vs cs, first = .request vs cs ∧ version10 ∈ vs := by
  unfold serverHandshake
  split
  · nofun
  next hl =>
    cases first with
    | request vs cs =>
      simp only
      split
      next hv => exact fun _ => ⟨by simpa using hl, vs, cs, rfl, hv⟩
      · nofun
    | _ => nofun

theorem handlers_only_if_negotiated (line : String) (first : First) (frames : List Msg)
    (h : (connection line first frames).handlers > 0) :
    line = SpecVerif.Pinned.protocolLine ∧ ∃ vs cs, first = .request vs cs ∧ version10 ∈ vs := by
  unfold connection at h
  cases hs : serverHandshake line first with
  | serve lz4 => exact serve_iff line first lz4 hs
  | refuse => rw [hs] at h; simp at h
  | fail => rw [hs] at h; simp at h

/-- a refused connection (no supported version) is closed without any handler, whatever the peer
sends afterwards -/
theorem refused_never_served (vs cs : List Nat) (hv : version10 ∉ vs) (frames : List Msg) :
    (connection SpecVerif.Pinned.protocolLine (.request vs cs) frames).handlers = 0 := by
  unfold connection serverHandshake
  simp [hv]

theorem unnegotiated_never_served (line : String) (first : First) (frames : List Msg)
    (h : line ≠ SpecVerif.Pinned.protocolLine ∨ first = .otherMessage ∨ first = .garbage) :
    (connection line first frames).handlers = 0 := by
  unfold connection serverHandshake
  rcases h with h | rfl | rfl
  · simp [h]
  · simp
  · simp

/-- the source's refusal branch ends with an error return (regenerated event sequence): the write
status is returned only when the write failed, then `mpxErrorf(...)` -/
theorem refusal_returns_error :
    ["if !ok", "call pmpx.BuildConnectError(\"unsupported protocol versions\")", "if err != nil",
     "return mpxError(err)", "if !st.OK()",
     "call c.writer.writeAndFlush(resp)", "return st",
     "return mpxErrorf(\"client requested unsupported protocol versions\")"] <:+:
      SpecVerif.PinnedMpx.ev_conn_handshakeAsServer ∧
    SpecVerif.PinnedMpx.ev_conn_handshakeAsServer.getLast? = some "return status.OK" ∧
    "call c.handshaked.Set()" ∈ SpecVerif.PinnedMpx.ev_conn_handshakeAsServer := by
  decide +kernel

theorem dispatch_total (c : Conn) (b : Bool) (m : Msg) :
    (dispatch c b m).2 = .ok ∨ (dispatch c b m).2 = .connError := by
  cases h : (dispatch c b m).2 <;> simp

theorem unknown_channel_dropped (c : Conn) (id : Nat) (h : id ∉ c.channels) :
    (dispatch c false (.data id)).2 = .ok ∧ (dispatch c false (.window id)).2 = .ok ∧
    (dispatch c false (.close id)).2 = .ok ∧ (dispatch c false (.data id)).1.handlers = c.handlers := by
  simp [dispatch, h]

theorem hostile_frames_confined (c : Conn) (id : Nat) (h : id ∈ c.channels) (ms : List Msg) :
    (dispatch c false (.open_ id)) = (c, .connError) ∧ (dispatch c true (.batch ms)) = (c, .connError) ∧
    (dispatch c false .unknown) = (c, .connError) := by
  simp [dispatch, h]

/-- the pinned handshake: the refusal path returned the OK status of the write and was served -/
def unrepairedHandshake (line : String) (first : First) : Outcome :=
  if line ≠ SpecVerif.Pinned.protocolLine then .fail else
  match first with
  | .request vs cs => .serve (decide (compLz4 ∈ cs))   -- also when no version matched
  | _ => .fail

theorem unrepaired_refusal_served :
    unrepairedHandshake SpecVerif.Pinned.protocolLine (.request [] []) = .serve false ∧
    (serveFrames ⟨[], 0, 0⟩ [.open_ 7]).handlers = 1 := by decide

/-! ### the protocol line is read with a bound (F25) -/

/-- readLine never consumes more than `max` bytes, whatever the peer sends -/
theorem line_bounded (max : Nat) (s l : List UInt8) (h : takeLine max s = some l) :
    l.length ≤ max ∧ l = s.take l.length := by
  induction max generalizing s l with
  | zero => simp [takeLine] at h; subst h; simp
  | succ n ih =>
    cases s with
    | nil => simp [takeLine] at h
    | cons c s =>
      simp only [takeLine] at h
      split at h
      · cases h; simp
      · cases hr : takeLine n s with
        | none => simp [hr] at h
        | some l' =>
          simp [hr] at h; subst h
          have := ih s l' hr
          simp only [List.length_cons, List.take_succ_cons]
          exact ⟨by omega, by rw [← this.2]⟩

/-- a peer whose first bytes are a line without an inner line feed (the protocol line is one) gets
exactly that line back, whatever follows it -/
theorem line_accepts (pl rest : List UInt8) (h : ∀ c ∈ pl, c ≠ 10) :
    takeLine (pl.length + 1) (pl ++ 10 :: rest) = some (pl ++ [10]) := by
  induction pl with
  | nil => simp [takeLine]
  | cons c pl ih =>
    have hc : c ≠ 10 := h c (by simp)
    simp only [List.length_cons, List.cons_append, takeLine, if_neg hc]
    rw [ih (fun x hx => h x (by simp [hx]))]
    rfl

/-- once `max` bytes have arrived the line check is decided: the peer cannot keep the server
waiting for a terminator (with `line_bounded`: after at most len(ProtocolLine) bytes) -/
theorem line_decided (max : Nat) (s : List UInt8) (hs : max ≤ s.length) : ∃ l, takeLine max s = some l := by
  induction max generalizing s with
  | zero => exact ⟨[], rfl⟩
  | succ n ih =>
    cases s with
    | nil => simp at hs
    | cons c s =>
      simp only [takeLine]
      split
      · exact ⟨_, rfl⟩
      · obtain ⟨l, hl⟩ := ih s (by simpa using hs)
        exact ⟨c :: l, by simp [hl]⟩

/-! ### oversized frames: the announced size alone allocates nothing beyond one chunk (F24) -/
open SpecVerif.Mpx.Frame in
/-- chunked reading returns exactly the announced bytes: same result as one ReadFull of `rem` bytes -/
theorem chunked_read_same (c : Nat) (hc : 0 < c) (fuel rem : Nat) (s : Bytes) (hf : rem ≤ fuel)
    (hs : rem ≤ s.length) : readChunks c fuel rem s = some (s.take rem, s.drop rem) := by
  induction fuel generalizing rem s with
  | zero =>
    have : rem = 0 := by omega
    subst this; simp [readChunks]
  | succ fuel ih =>
    cases rem with
    | zero => simp [readChunks]
    | succ rem =>
      simp only [readChunks]
      have hn : min (rem + 1) c ≤ rem + 1 := Nat.min_le_left _ _
      have h1 : ¬ s.length < min (rem + 1) c := by omega
      rw [if_neg h1, ih _ _ (by omega) (by simp; omega)]
      simp only [← List.take_add, List.drop_drop, Nat.add_sub_of_le hn]

open SpecVerif.Mpx.Frame in
/-- a truncated frame is never a message, however it is chunked -/
theorem chunked_read_short (c : Nat) (_hc : 0 < c) (fuel rem : Nat) (s : Bytes) (hs : s.length < rem) :
    readChunks c fuel rem s = none := by
  induction fuel generalizing rem s with
  | zero => cases rem with
    | zero => omega
    | succ rem => simp [readChunks]
  | succ fuel ih =>
    cases rem with
    | zero => omega
    | succ rem =>
      simp only [readChunks]
      split
      · rfl
      · rw [ih _ _ (by simp; omega)]

open SpecVerif.Mpx.Frame in
/-- whatever size a peer announces, the reader never holds more than one chunk beyond the bytes
the peer actually delivered -/
theorem alloc_bounded (c fuel rem avail : Nat) : allocated c fuel rem avail ≤ avail + c := by
  induction fuel generalizing rem avail with
  | zero => cases rem <;> simp [allocated]
  | succ fuel ih =>
    cases rem with
    | zero => simp [allocated]
    | succ rem =>
      simp only [allocated]
      split
      · omega
      · have := ih (rem + 1 - min (rem + 1) c) (avail - min (rem + 1) c)
        omega

open SpecVerif.Mpx.Frame in
/-- the unrepaired reader allocated the announced size: 4 bytes from the peer, 4 GiB on the server -/
example : allocated (2 ^ 32) 1 (2 ^ 32 - 1) 0 = 2 ^ 32 - 1 ∧ allocated (2 ^ 20) (2 ^ 32) (2 ^ 32 - 1) 0 = 2 ^ 20 := by
  simp [allocated]

end SpecVerif.C11
