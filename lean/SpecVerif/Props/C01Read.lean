/-
C01, continued — reading a written tree back to any depth.

`read_path`: for every well-formed value tree and every path into it (fields by tag, elements by
index, any depth) following the path over the tree's layout bytes with the library's accessors
(`OpenMessageErr` + `Field(tag)`, `OpenListErr` + `GetBytes(i)`) returns exactly the layout bytes of
the node at that path. With `C01.writer_refines_layout` (the writer builds those bytes): every field
is found under its tag with the written value and every element at its index, at every level.
-/
import SpecVerif.Props.C01
namespace SpecVerif.Writer
open SpecVerif

/-- one step into a value: the field with a tag, or the element at an index -/
inductive Step where
  | field (tag : Nat)
  | elem (i : Nat)

/-- the library's read for one step: open the container, then `Field(tag)` / `GetBytes(i)` -/
def readStep (b : Bytes) : Step → Res Bytes
  | .field t =>
    match openMessageErr b with
    | .ok M => M.field t
    | .err e n => .err e n
    | .panic => .panic
  | .elem i =>
    match openListErr b with
    | .ok L => L.getBytes i
    | .err e n => .err e n
    | .panic => .panic

def readPath (b : Bytes) : List Step → Res Bytes
  | [] => .ok b
  | s :: rest =>
    match readStep b s with
    | .ok v => readPath v rest
    | .err e n => .err e n
    | .panic => .panic

def Flds.find (t : Nat) : Flds → Option Node
  | .nil => none
  | .cons t' n fs => if t' = t then some n else fs.find t

def Nodes.get (i : Nat) : Nodes → Option Node
  | .nil => none
  | .cons n ns => match i with | 0 => some n | k + 1 => ns.get k

def Node.child : Node → Step → Option Node
  | .msg fs, .field t => fs.find t
  | .list es, .elem i => es.get i
  | _, _ => none

def Node.at (n : Node) : List Step → Option Node
  | [] => some n
  | s :: rest => match n.child s with | some c => c.at rest | none => none

theorem Flds.find_split : (fs : Flds) → (t : Nat) → (c : Node) → fs.find t = some c → fs.OK →
    c.OK ∧ ∃ l r, fs.encs = l ++ (t, c.enc) :: r
  | .nil, t, c, h, _ => by simp [Flds.find] at h
  | .cons t' n fs, t, c, h, hok => by
    unfold Flds.find at h
    by_cases ht : t' = t
    · simp only [ht, ↓reduceIte, Option.some.injEq] at h
      subst h; subst ht
      exact ⟨hok.1, [], fs.encs, by simp [Flds.encs]⟩
    · simp only [ht, ↓reduceIte] at h
      obtain ⟨hc, l, r, hsplit⟩ := Flds.find_split fs t c h hok.2
      exact ⟨hc, (t', n.enc) :: l, r, by simp [Flds.encs, hsplit]⟩

theorem Nodes.get_split : (ns : Nodes) → (i : Nat) → (c : Node) → ns.get i = some c → ns.OK →
    c.OK ∧ ∃ l r, ns.encs = l ++ c.enc :: r ∧ l.length = i
  | .nil, i, c, h, _ => by simp [Nodes.get] at h
  | .cons n ns, i, c, h, hok => by
    unfold Nodes.get at h
    cases i with
    | zero =>
      simp only [Option.some.injEq] at h
      subst h
      exact ⟨hok.1, [], ns.encs, by simp [Nodes.encs], rfl⟩
    | succ k =>
      obtain ⟨hc, l, r, hsplit, hl⟩ := Nodes.get_split ns k c h hok.2
      exact ⟨hc, n.enc :: l, r, by simp [Nodes.encs, hsplit], by simp [hl]⟩

theorem readStep_child (n m : Node) (s : Step) (hn : n.OK) (hch : n.child s = some m) :
    m.OK ∧ readStep n.enc s = .ok m.enc := by
  match n, s, hn, hch with
  | .list es, .elem i, hn, hch =>
    obtain ⟨hm, l, r, hsplit, rfl⟩ := Nodes.get_split es i m hch hn.1
    obtain ⟨L, hopen, _, hget⟩ := C01.list_roundtrip [] l m.enc r (hsplit ▸ hn.2)
    rw [List.nil_append] at hopen
    exact ⟨hm, by simp only [readStep, Node.enc, hsplit, hopen]; exact hget⟩
  | .msg fs, .field t, hn, hch =>
    obtain ⟨hm, l, r, hsplit⟩ := Flds.find_split fs t m hch hn.1
    obtain ⟨M, hopen, _, _, hfield⟩ :=
      C01.msg_field_found [] l t m.enc r (hsplit ▸ hn.2) (valid_delim _ (Node.valid m hm))
    rw [List.nil_append] at hopen
    exact ⟨hm, by simp only [readStep, Node.enc, hsplit, hopen]; exact hfield⟩

theorem read_path : (path : List Step) → (n c : Node) → n.OK → n.at path = some c →
    c.OK ∧ readPath n.enc path = .ok c.enc
  | [], n, c, hn, h => by
    cases h
    exact ⟨hn, rfl⟩
  | s :: rest, n, c, hn, h => by
    unfold Node.at at h
    cases hch : n.child s with
    | none => rw [hch] at h; cases h
    | some m =>
      rw [hch] at h
      obtain ⟨hm, hstep⟩ := readStep_child n m s hn hch
      obtain ⟨hc, hrest⟩ := read_path rest m c hm h
      exact ⟨hc, by rw [readPath, hstep]; exact hrest⟩

end SpecVerif.Writer

namespace SpecVerif.C01
open SpecVerif

/-- what the writer built for a well-formed tree reads back node by node: for every path into the tree
the accessors return the layout bytes of the node the path leads to -/
theorem read_path (n c : Writer.Node) (path : List Writer.Step) (hn : n.OK) (h : n.at path = some c)
    (buf : Bytes) :
    ∃ b, (Writer.run (Writer.compRoot n) buf).1.built = some b ∧ Writer.readPath b path = .ok c.enc :=
  ⟨n.enc, (writer_refines_layout n buf).1, (Writer.read_path path n c hn h).2⟩

/-- non-vacuity: {2: [true, {5: 7}]} - the byte 7 is found at field 2, element 1, field 5 -/
example :
    (Writer.Node.msg (.cons 2 (.list (.cons (.leaf (encBool true))
      (.cons (.msg (.cons 5 (.leaf (encByte 7)) .nil)) .nil))) .nil)).at [.field 2, .elem 1, .field 5] =
    some (.leaf (encByte 7)) := by
  rfl

end SpecVerif.C01
