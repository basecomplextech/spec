/-
C04 — Every RPC call gets its own handler run, result and status (model level).

On the delivery model of C03 (one channel per call), for EVERY interleaving of sends, transmissions,
dispatches and receives of any number of concurrent calls:
 * `no_foreign_data`     : what a caller has received on its call's channel is always a prefix of
                           what ITS handler sent on that channel — never another call's bytes;
 * `result_is_own`       : once the caller has observed the end of the call (close frame dispatched,
                           queue drained, call not abandoned) it has received exactly the handler's
                           streamed messages, in order, followed by exactly the handler's response;
 * `ok_only_if_sent`     : any response the caller takes was sent by the server for that call;
 * `no_response_no_ok`   : a call whose channel ended without any payload has no response (it is
                           surfaced as a non-OK status), and a oneway call (handler sends nothing)
                           never yields one;
 * `handler_once`        : every channel id starts at most one handler, and exactly one once its open
                           frame was processed; a duplicate open frame is refused;
 * `status_roundtrip`    : the status code and message (arbitrary strings, application-defined codes
                           included) written into the response's Status message are read back exactly.
Tie: the event sequences of rpc's Receive loops and mpx's dispatch (TiesMpx), scenario `rpcscen`.
-/
import SpecVerif.Rpc.Call
import SpecVerif.Props.C03
import SpecVerif.Props.C05
namespace SpecVerif.C04
open SpecVerif SpecVerif.Mpx SpecVerif.Mpx.Delivery SpecVerif.Rpc

theorem clientView_eq_some {l stream : List Bytes} {r : Bytes} :
    clientView l = some (stream, r) ↔ l = stream ++ [r] := by
  unfold clientView
  split
  next h => simp [List.reverse_eq_nil_iff.mp h]
  next x xs h =>
    rw [List.reverse_eq_cons_iff.mp h]
    simp [eq_comm]

theorem no_foreign_data (c : Nat) (as : List Action) :
    (run init as).delivered c <+: (run init as).sent c := C03.delivered_prefix c as

theorem result_is_own (c : Nat) (as : List Action) (p : Produced)
    (hsent : (run init as).sent c = p.payloads)
    (he : (run init as).ended c = false) (hb : (run init as).closedB c = true)
    (hq : (run init as).recvq c = []) :
    clientView ((run init as).delivered c) = some (p.stream, p.response) := by
  rw [C03.complete_after_close c as he hb hq, hsent]
  exact clientView_eq_some.mpr rfl

theorem ok_only_if_sent (c : Nat) (as : List Action) (stream : List Bytes) (r : Bytes)
    (h : clientView ((run init as).delivered c) = some (stream, r)) : r ∈ (run init as).sent c :=
  (C03.delivered_prefix c as).subset (by rw [clientView_eq_some.mp h]; simp)

theorem no_response_no_ok (c : Nat) (as : List Action) (hs : (run init as).sent c = []) :
    clientView ((run init as).delivered c) = none := by
  have hp := C03.delivered_prefix c as
  rw [hs] at hp
  rw [List.prefix_nil.mp hp]; rfl

/-! ### exactly one handler per call -/

def Counted (s : Srv) : Prop := ∀ x, s.started x = if s.registered x then 1 else 0

theorem Counted.open {s : Srv} (h : Counted s) (c : Nat) :
    Counted (s.open c) ∧ ∀ x, (s.open c).registered x = (s.registered x || decide (x = c)) := by
  unfold Srv.open
  by_cases hr : s.registered c = true
  · simp only [hr, ↓reduceIte]
    exact ⟨h, fun x => by by_cases hx : x = c <;> simp [hx, hr]⟩
  · refine ⟨fun x => ?_, fun x => ?_⟩ <;> by_cases hx : x = c <;> simp [hr, upd, hx, h x, h c]

theorem Counted.run {s : Srv} (h : Counted s) (cs : List Nat) :
    Counted (s.run cs) ∧ ∀ x, (s.run cs).registered x = (s.registered x || decide (x ∈ cs)) := by
  induction cs generalizing s with
  | nil => exact ⟨h, fun x => by simp [Srv.run]⟩
  | cons d ds ih =>
    obtain ⟨h1, h2⟩ := h.open d
    obtain ⟨i1, i2⟩ := ih h1
    exact ⟨i1, fun x => by rw [Srv.run, i2, h2]; simp [Bool.or_assoc]⟩

theorem started_eq (cs : List Nat) (c : Nat) : (Srv.init.run cs).started c = if c ∈ cs then 1 else 0 := by
  obtain ⟨h1, h2⟩ := Counted.run (s := Srv.init) (fun _ => rfl) cs
  rw [h1 c, h2 c]
  simp [Srv.init]

theorem handler_once (cs : List Nat) (c : Nat) :
    (Srv.init.run cs).started c ≤ 1 ∧ (c ∈ cs → (Srv.init.run cs).started c = 1) := by
  rw [started_eq]
  exact ⟨by split <;> omega, fun hc => if_pos hc⟩

/-! ### status code and message survive the response encoding -/

/-- prpc.Status { code string 1; message string 2 }: both strings are read back exactly -/
theorem status_roundtrip (p code msg : Bytes) (hc : code.length < 2 ^ 32) (hm : msg.length < 2 ^ 32)
    (hsz : MsgWF [(1, (C05.SVal.string code).enc), (2, (C05.SVal.string msg).enc)]) :
    ∃ M, openMessageErr (p ++ C05.genWrite [(1, .string code), (2, .string msg)]) = .ok M ∧
      (∃ raw, M.field 1 = .ok raw ∧ C05.decodeLike (.string code) raw = .ok (.string code)) ∧
      (∃ raw, M.field 2 = .ok raw ∧ C05.decodeLike (.string msg) raw = .ok (.string msg)) := by
  obtain ⟨M, ho, _, h1⟩ := C05.generated_roundtrip p [] 1 (.string code) [(2, .string msg)] hsz hc
  obtain ⟨M', ho', _, h2⟩ := C05.generated_roundtrip p [(1, .string code)] 2 (.string msg) [] hsz hm
  -- both calls opened the same bytes
  cases ho.symm.trans ho'
  exact ⟨M, ho, h1, h2⟩

end SpecVerif.C04
