/-
C18 — Pooled objects never leak state between uses or goroutines (model level).

 * Pool protocol (Pool/Model.lean), every interleaving of acquire / use / release by any number of
   goroutines: a recycled object is clean when it is handed out (`acquired_is_clean`), an object
   that is held is not in the pool and every pooled object is unowned (`inv_reachable`), so an object
   in use by one goroutine is never handed to another (`never_shared`).
 * What "release resets" means in the code: the fields of each pooled type that its `reset()` and
   the pool's release function do NOT assign are regenerated from the source on every run
   (`Generated.unreset_*`); every one of them is in `statelessFields` (`unreset_fields_are_stateless`).
 * The writer's own reset is C12.reset_clean; the ties of every reset/release function are in TiesMpx.
The race-freedom clause is decided by the race detector in the thorough tier (no memory-model theorem).
-/
import SpecVerif.Pool.Model
import SpecVerif.Generated.Facts
namespace SpecVerif.C18
open SpecVerif.Pool

structure Inv (s : State) : Prop where
  free_unowned : ∀ o ∈ s.free, s.owner o = none ∧ s.dirty o = false
  free_nodup : s.free.Nodup
  bound : (∀ o ∈ s.free, o < s.next) ∧ ∀ o, s.next ≤ o → s.owner o = none ∧ s.dirty o = false

theorem inv_init : Inv init := ⟨by simp [init], by simp [init], by simp [init]⟩

theorem Inv.owned {s : State} (hi : Inv s) {o g : Nat} (ho : s.owner o = some g) : o ∉ s.free ∧ o < s.next := by
  refine ⟨fun hm => ?_, Nat.lt_of_not_le fun hn => ?_⟩
  · rw [(hi.free_unowned o hm).1] at ho; cases ho
  · rw [(hi.bound.2 o hn).1] at ho; cases ho

/- Every step rewrites `owner`/`dirty` at one object `o`; the clauses speak about pooled and fresh
objects, which `o` is not (or, for `release`, has just become). -/
theorem inv_step (s s' : State) (a : Action) (hi : Inv s) (h : step s a = some s') : Inv s' := by
  have ⟨hf, hn, hb1, hb2⟩ := hi
  cases a <;> simp only [step, Option.ite_none_right_eq_some, Option.some.injEq] at h
  case acquire g =>
    split at h <;> cases h
    next o rest hfr =>
      rw [hfr] at hf hn hb1
      have hnd := List.nodup_cons.mp hn
      have hlt := hb1 o (List.mem_cons_self ..)
      refine ⟨fun x hx => ?_, hnd.2, fun x hx => hb1 x (List.mem_cons_of_mem _ hx), fun x hx => ?_⟩
      · have hne : x ≠ o := fun e => hnd.1 (e ▸ hx)
        simpa [upd, hne] using hf x (List.mem_cons_of_mem _ hx)
      · have hne : x ≠ o := by dsimp only at hx; omega
        simpa [upd, hne] using hb2 x hx
    next hfr =>
      refine ⟨by simp [hfr], by simp [hfr], by simp [hfr], fun x hx => ?_⟩
      dsimp only at hx
      have hne : x ≠ s.next := by omega
      simpa [upd, hne] using hb2 x (by omega)
  case use g o =>
    obtain ⟨ho, rfl⟩ := h
    obtain ⟨hnf, hlt⟩ := hi.owned ho
    refine ⟨fun x hx => ?_, hn, hb1, fun x hx => ?_⟩
    · have hne : x ≠ o := fun e => hnf (e ▸ hx)
      simpa [upd, hne] using hf x hx
    · have hne : x ≠ o := by dsimp only at hx; omega
      simpa [upd, hne] using hb2 x hx
  case release g o =>
    obtain ⟨ho, rfl⟩ := h
    obtain ⟨hnf, hlt⟩ := hi.owned ho
    refine ⟨fun x hx => ?_, List.nodup_cons.mpr ⟨hnf, hn⟩, fun x hx => ?_, fun x hx => ?_⟩
    · rcases List.mem_cons.mp hx with rfl | e
      · simp [upd]
      · have hne : x ≠ o := fun e' => hnf (e' ▸ e)
        simpa [upd, hne] using hf x e
    · rcases List.mem_cons.mp hx with rfl | e
      · exact hlt
      · exact hb1 x e
    · have hne : x ≠ o := by dsimp only at hx; omega
      simpa [upd, hne] using hb2 x hx

theorem inv_run (s : State) (hi : Inv s) (as : List Action) : Inv (run s as) := by
  induction as generalizing s with
  | nil => exact hi
  | cons a as ih =>
    simp only [run]
    cases h : step s a with
    | none => exact ih s hi
    | some s' => exact ih s' (inv_step s s' a hi h)

theorem inv_reachable (as : List Action) : Inv (run init as) := inv_run _ inv_init as

theorem Inv.acquire {s s' : State} (hi : Inv s) {g : Nat} (h : step s (.acquire g) = some s') :
    ∃ o, s'.lastAcquired = some o ∧ s.owner o = none ∧ s'.dirty o = false ∧ s'.owner o = some g := by
  simp only [step] at h
  split at h <;> cases h
  next o rest hfr =>
    obtain ⟨h1, h2⟩ := hi.free_unowned o (by simp [hfr])
    exact ⟨o, rfl, h1, h2, by simp [upd]⟩
  · obtain ⟨h1, h2⟩ := hi.bound.2 s.next (Nat.le_refl _)
    exact ⟨_, rfl, h1, h2, by simp [upd]⟩

theorem acquired_is_clean (as : List Action) (g : Nat) (s' : State)
    (h : step (run init as) (.acquire g) = some s') :
    ∃ o, s'.lastAcquired = some o ∧ s'.dirty o = false ∧ s'.owner o = some g :=
  let ⟨o, h1, _, h3, h4⟩ := (inv_reachable as).acquire h
  ⟨o, h1, h3, h4⟩

theorem never_shared (as : List Action) (g g' o : Nat) (s' : State)
    (hown : (run init as).owner o = some g)
    (h : step (run init as) (.acquire g') = some s') : s'.lastAcquired ≠ some o := by
  obtain ⟨o', h1, h2, -⟩ := (inv_reachable as).acquire h
  rw [h1]
  rintro ⟨rfl⟩
  rw [h2] at hown; cases hown

/-- non-vacuity: an object is recycled from goroutine 1 to goroutine 2 -/
example : (run init [.acquire 1, .use 1 0, .release 1 0, .acquire 2]).owner 0 = some 2 ∧
    (run init [.acquire 1, .use 1 0, .release 1 0, .acquire 2]).dirty 0 = false := by decide

/-- the unrepaired writer pool (F41): a writer that is still owned gets `Put` into the pool because its
recycled state carried the `releaseWriter` flag of a previous, failed, pooled writer; the next acquire
hands the object that goroutine 1 still holds to goroutine 2 -/
def strayPut (s : State) (o : Nat) : State := { s with free := o :: s.free }

theorem unrepaired_shares_object :
    let s0 := run init [.acquire 1, .use 1 0]
    let s1 := strayPut s0 0
    ∃ s2, step s1 (.acquire 2) = some s2 ∧ s2.lastAcquired = some 0 ∧ s0.owner 0 = some 1 ∧ s2.dirty 0 = true := by
  refine ⟨_, rfl, ?_, ?_, ?_⟩ <;> decide

/-- the fields the reset functions leave alone: all stateless -/
def statelessFields : List String :=
  ["_elements", "_fields", "_stack",          -- backing arrays of stacks cut to length 0
   "recvMu", "sendMu",                         -- mutexes, unlocked when the object is released
   "sendBuilder"]                              -- `type builder struct{}`: no fields

theorem unreset_fields_are_stateless :
    (∀ f ∈ Generated.unreset_writerState, f ∈ statelessFields) ∧
    (∀ f ∈ Generated.unreset_mpx_channelState, f ∈ statelessFields) ∧
    (∀ f ∈ Generated.unreset_rpc_channelState, f ∈ statelessFields) ∧
    (∀ f ∈ Generated.unreset_rpc_requestState, f ∈ statelessFields) ∧
    (∀ f ∈ Generated.unreset_rpc_serverChannelState, f ∈ statelessFields) := by
  decide

end SpecVerif.C18
