/-
C09 — Transport failures terminate cleanly and are never reported as success.

 * `no_partial_frame`: whatever prefix of the byte stream arrives before the cut, the reader
   delivers a prefix of the written messages and never a partial frame (for every message list and
   every cut offset; `Mpx/Frame.lean`).
 * `close_wakes_every_waiter`: every blocking `select` of the library (Send on the window, Send on
   the write queue, Receive, Conn.Channel) has a case that `conn.close()` fires, and `close()`
   really fires them — a theorem over the event sequences REGENERATED from the source on every run
   (`TiesMpx.lean` pins them): cancel of the connection context, closed flag, write-queue close,
   and through `closeChannels → channel.free → channelState.close` the cancel of every channel
   context and the close of every receive queue.
 * `late_open_closed`: a channel registered by the receive loop while the connection is closing
   is always closed once both sides are done, for all interleavings (`Mpx/LateOpen.lean`);
   `late_open_unrepaired` is the schedule on which the pinned code left the handler blocked forever
   (replayed on the implementation by `mpxlate`).
 * recovery of the client is C19's `ondemand_redials` / `auto_rearms`.
Residual (runtime): "within bounded time" is measured by the fault-injection scenario (2 s).
-/
import SpecVerif.Props.C03
import SpecVerif.PinnedMpx
import SpecVerif.Mpx.LateOpen
namespace SpecVerif.C09
open SpecVerif SpecVerif.Mpx

theorem no_partial_frame (ms : List Bytes) (hm : ∀ m ∈ ms, m.length < 2 ^ 32) (k : Nat) :
    ∃ j, (Frame.readAll (ms.length + 1) ((Frame.stream ms).take k)).1 = ms.take j :=
  C03.frames_cut ms hm k

/-- the select cases that a connection close makes ready -/
def firedByClose : List String :=
  ["select-case <-s.ctx.Wait()",                    -- channel context, cancelled by channelState.close
   "select-case <-c.writeq.WriteWait(len(b))",      -- write queue closed by conn.close
   "select-case <-wait",                            -- wait := ch.ReceiveWait(): the receive queue is closed by
                                                    -- channelState.close, which posts its notification
                                                    -- (WakeProps.parked_closed_wakes)
   "select-case <-c.closed.Wait()"]                 -- closed flag set by conn.close

/-- the blocking operations of the library (their pinned event sequences) -/
def blockingOps : List (String × List String) :=
  [("Send/window", PinnedMpx.ev_state_decrementSendWindow), ("Send/queue", PinnedMpx.ev_conn_send),
   ("Receive", PinnedMpx.ev_channel_Receive), ("Conn.Channel", PinnedMpx.ev_conn_Channel)]

theorem close_wakes_every_waiter :
    (∀ op ∈ blockingOps, ∃ e ∈ op.2, e ∈ firedByClose) ∧
    "call ch.ReceiveWait()" ∈ PinnedMpx.ev_channel_Receive ∧
    "call s.recvQueue.ReadWait()" ∈ PinnedMpx.ev_channel_ReceiveWait ∧
    "call c.ctx.Cancel()" ∈ PinnedMpx.ev_conn_close ∧ "call c.closed.Set()" ∈ PinnedMpx.ev_conn_close ∧
    "call c.writeq.Close()" ∈ PinnedMpx.ev_conn_close ∧ "call c.closeChannels()" ∈ PinnedMpx.ev_conn_close ∧
    "call ch.free()" ∈ PinnedMpx.ev_conn_closeChannels ∧ "call s.close()" ∈ PinnedMpx.ev_channel_free ∧
    "call s.ctx.Cancel()" ∈ PinnedMpx.ev_state_close ∧ "call s.recvQueue.Close()" ∈ PinnedMpx.ev_state_close := by
  decide +kernel

/-- inductive invariant of the repaired protocol (decidable; the state space is finite) -/
def lateInv (s : LateOpen.State) : Bool :=
  (s.closer == .start || s.flag) &&                                         -- the closer sets the flag first
  (s.reg != .start || (!s.inMap && !s.chClosed)) &&                        -- nothing registered yet
  (!(s.reg == .registered && !s.chClosed) || s.inMap) &&                   -- an open channel is in the map ...
  (!(s.reg == .done && !s.chClosed) || (s.inMap && s.closer != .ranged))   -- ... and the range is still to come

/- 18 combinations of action and program counters, each decided over the four flags -/
theorem lateInv_step (s s' : LateOpen.State) (a : LateOpen.Action) (hi : lateInv s = true)
    (hs : LateOpen.step true s a = some s') : lateInv s' = true := by
  have key : ∀ s, lateInv s = true → (LateOpen.step true s a).all lateInv = true := by
    intro ⟨flag, inMap, chClosed, handler, reg, closer⟩
    revert flag inMap chClosed handler
    cases a <;> cases reg <;> cases closer <;> decide
  simpa [hs] using key s hi

theorem lateInv_run (s : LateOpen.State) (hi : lateInv s = true) (as : List LateOpen.Action) :
    lateInv (LateOpen.run true s as) = true := by
  induction as generalizing s with
  | nil => exact hi
  | cons a as ih =>
    simp only [LateOpen.run]
    cases hs : LateOpen.step true s a with
    | none => exact ih s hi
    | some s' => exact ih s' (lateInv_step s s' a hi hs)

theorem late_open_closed (as : List LateOpen.Action)
    (hr : (LateOpen.run true LateOpen.init as).reg = .done)
    (hc : (LateOpen.run true LateOpen.init as).closer = .ranged) :
    (LateOpen.run true LateOpen.init as).chClosed = true := by
  have hi := lateInv_run LateOpen.init (by decide) as
  -- at `reg = done` and `closer = ranged` the last clause of `lateInv` reads `chClosed`
  simp only [lateInv, hr, hc, Bool.and_eq_true] at hi
  simpa using hi.2

/-- the closer sets the flag and ranges over the map before the channel is in it -/
theorem late_open_unrepaired :
    let s := LateOpen.run false LateOpen.init [.closeStep, .closeStep, .regStep, .regStep]
    s.reg = .done ∧ s.closer = .ranged ∧ s.handler = true ∧ s.chClosed = false := by decide

end SpecVerif.C09
