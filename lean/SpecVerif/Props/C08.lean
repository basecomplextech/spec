/-
C08 — Encoded bytes are deterministic and follow the pinned wire format.

`encX`, `encList`, `encMsg` ARE the pinned layout, written from the format (type codes from `Pinned`,
tied to the source by `Ties.lean`); the drivers check on every run that the Go bytes, the writer
model's bytes and this layout coincide byte for byte for every generated program, written five ways
(fresh writer, writer reused after a failed program, stale buffer memory, pooled writer, non-empty
buffer prefix). The theorems below pin the layout facts the property names; C01 proves that the
library's readers read these bytes back identically.
`bytes_depend_only_on_tree`: for the API program of any value tree the bytes the writer model returns
do not depend on the initial buffer content (stale memory, a non-empty prefix) and equal the pinned
layout of the tree; the other four ways (reuse after a failure, pooling) are `Reset`/`fresh` states
and are compared on every run by the `wp:` stream.
-/
import SpecVerif.Lemmas.ValidParse
import SpecVerif.Lemmas.WriterTree
namespace SpecVerif.C08
open SpecVerif Pinned

/-- every encoder ends with its pinned type code -/
theorem type_codes (v : Bool) (x : UInt8) (i : Int) (n : Nat) (b : Bytes) :
    (encBool true).getLast? = some 1 ∧ (encBool false).getLast? = some 2 ∧ (encByte x).getLast? = some 3 ∧
    (encInt16 i).getLast? = some 10 ∧ (encInt32 i).getLast? = some 11 ∧ (encInt64 i).getLast? = some 12 ∧
    (encUint16 n).getLast? = some 20 ∧ (encUint32 n).getLast? = some 21 ∧ (encUint64 n).getLast? = some 22 ∧
    (encBin64 b).getLast? = some 30 ∧ (encBin128 b).getLast? = some 31 ∧ (encBin256 b).getLast? = some 32 ∧
    (encFloat32 n).getLast? = some 40 ∧ (encFloat64 n).getLast? = some 41 ∧
    (encBytes b).getLast? = some 50 ∧ (encString b).getLast? = some 60 := by
  have hs : (encString b).getLast? = some 60 := by
    unfold encString; rw [List.getLast?_append]; simp [tString]
  simp [hs, encBool, encByte, encInt16, encInt32, encInt64, encUint16, encUint32, encUint64, encBin64,
    encBin128, encBin256, encFloat32, encFloat64, encBytes, tTrue, tFalse, tByte, tInt16,
    tInt32, tInt64, tUint16, tUint32, tUint64, tBin64, tBin128, tBin256, tFloat32, tFloat64, tBytes]

/-- fixed-width fields are big-endian: the value is recovered by the big-endian reading -/
theorem fixed_width_big_endian (k v : Nat) (h : v < 256 ^ k) : be (toBE k v) = v ∧ (toBE k v).length = k :=
  ⟨be_toBE k v h, toBE_length k v⟩

/-- strings are the data, a NUL byte, the reverse-varint size and the type code -/
theorem string_layout (v : Bytes) : encString v = v ++ [0] ++ putRevU32 v.length ++ [60] := rfl

/-- reverse compact varints: one byte up to 0xfc, then marker 0xfd + 2 bytes, 0xfe + 4, 0xff + 8 -/
theorem varint_widths (v : Nat) :
    (putRevU64 v).length = if v ≤ 0xfc then 1 else if v ≤ 0xffff then 3 else if v ≤ 0xffffffff then 5 else 9 :=
  putRevU64_length v

/-- list: the big table form is used exactly when there are more than 255 elements or the last end
offset exceeds 65535 -/
theorem list_big_iff (es : List Bytes) (hne : es ≠ []) :
    isBigList (endOffsets 0 es) = true ↔ es.length > 255 ∨ es.flatten.length > 65535 := by
  unfold isBigList
  rw [endOffsets_getLast 0 es hne]
  simp

theorem list_type_code (es : List Bytes) :
    (encList es).getLast? = some (if isBigList (endOffsets 0 es) then 71 else 70) := by
  unfold encList; simp [tList, tBigList]

/-- message: the big table form is used exactly when some tag exceeds 255 or some end offset 65535 -/
theorem msg_big_iff (fs : List (Nat × Bytes)) :
    isBigMessage (sortedEntries (msgPairs fs)) = true ↔ ∃ f ∈ msgPairs fs, f.1 > 255 ∨ f.2 > 65535 := by
  unfold isBigMessage
  rw [(sortedEntries_perm _).any_eq, List.any_eq_true]
  simp

/-- the offset table is sorted strictly by tag and holds exactly the written `(tag, offset)` pairs -/
theorem msg_table_sorted (fs : List (Nat × Bytes)) (hd : (fs.map (·.1)).Nodup) :
    TagsSorted (sortedEntries (msgPairs fs)) ∧ (sortedEntries (msgPairs fs)).Perm (msgPairs fs) :=
  ⟨sortedEntries_sorted _ (by rw [msgPairs_tags]; exact hd), sortedEntries_perm _⟩

/-- the bytes depend only on the value tree's encoded children: `encList`/`encMsg` are functions of
them, and the library reads them back identically (C01) -/
theorem readable_by_library (F : FloatOps) (L : C10.FloatLaws F) (b : Bytes) (hv : Valid b) (q : Bytes) :
    parseValue F (2 * (q ++ b).length + 2) (q ++ b) = .ok b.length :=
  valid_parse F L b hv q _ (by simp only [List.length_append]; omega)

/-- 255 elements keep the small form, 256 force the big one (whatever the elements are) -/
example (es : List Bytes) (h : es.length = 256) : isBigList (endOffsets 0 es) = true := by
  have hne : es ≠ [] := by intro h0; subst h0; simp at h
  rw [list_big_iff es hne]; omega

/-- the built bytes depend only on the tree that was written, not on what the buffer held before -/
theorem bytes_depend_only_on_tree (n : Writer.Node) (buf1 buf2 : Bytes) :
    (Writer.run (Writer.compRoot n) buf1).1.built = (Writer.run (Writer.compRoot n) buf2).1.built ∧
    (Writer.run (Writer.compRoot n) buf1).1.built = some n.enc := by
  rw [(Writer.run_compRoot n buf1).1, (Writer.run_compRoot n buf2).1]
  exact ⟨rfl, rfl⟩

end SpecVerif.C08
