/-
C10 — Scalar codecs are exact inverses; width changes never truncate silently.
`FloatLaws` (what the float decoders need of the conversions) is stated here because C01 and C05 quote it.
Every statement holds behind an arbitrary prefix `p` (decoders read from the end of the buffer).
-/
import SpecVerif.Lemmas.Scalars
import SpecVerif.Lemmas.IEEE
namespace SpecVerif.C10
open SpecVerif Pinned

inductive W | w16 | w32 | w64 deriving DecidableEq, Repr

def fitsI : W → Int → Prop
  | .w16, v => -32768 ≤ v ∧ v ≤ 32767
  | .w32, v => -2147483648 ≤ v ∧ v ≤ 2147483647
  | .w64, v => -9223372036854775808 ≤ v ∧ v ≤ 9223372036854775807

def fitsU : W → Nat → Prop
  | .w16, v => v ≤ 65535
  | .w32, v => v ≤ 4294967295
  | .w64, v => v ≤ 18446744073709551615

instance (w : W) (v : Int) : Decidable (fitsI w v) := by cases w <;> unfold fitsI <;> infer_instance
instance (w : W) (v : Nat) : Decidable (fitsU w v) := by cases w <;> unfold fitsU <;> infer_instance

def encI : W → Int → Bytes
  | .w16 => encInt16 | .w32 => encInt32 | .w64 => encInt64
def decI : W → Bytes → Res (Int × Nat)
  | .w16 => decodeInt16 | .w32 => decodeInt32 | .w64 => decodeInt64
def encU : W → Nat → Bytes
  | .w16 => encUint16 | .w32 => encUint32 | .w64 => encUint64
def decU : W → Bytes → Res (Nat × Nat)
  | .w16 => decodeUint16 | .w32 => decodeUint32 | .w64 => decodeUint64

/-- Signed integers, all 9 (stored width, read width) pairs, whole domains: the same numeric value
when it is representable in the read width, the overflow error otherwise; the reported size is the
number of bytes the encoder appended. -/
theorem int_cross (s r : W) (p : Bytes) (v : Int) (hv : fitsI s v) :
    decI r (p ++ encI s v) =
      if fitsI r v then .ok (v, (encI s v).length) else .err .overflow 0 := by
  -- the range test of the read width `r` is `¬ fitsI r`; where the decoder makes no test (`False`), `hv` gives the fit
  cases s with
  | w16 | w32 =>
    simp only [fitsI] at hv
    have h := revI32_put p v (by omega) (by omega)
    cases r <;> simp only [encI, encInt16, encInt32, decI, decodeInt16_eq, decodeInt32_eq, decodeInt64_eq] <;>
      exact decodeVarint_of32 p (by decide) h (putRevU32_pos _)
        (by simp only [fitsI, false_iff, Decidable.not_not]; omega)
  | w64 =>
    simp only [fitsI] at hv
    have h := revI64_put p v hv.1 hv.2
    cases r <;> simp only [encI, encInt64, decI, decodeInt16_eq, decodeInt32_eq, decodeInt64_eq] <;>
      exact decodeVarint_of64 p (by decide) h (putRevU64_pos _)
        (by simp only [fitsI, false_iff, Decidable.not_not]; omega)

/-- Unsigned integers, all 9 pairs. -/
theorem uint_cross (s r : W) (p : Bytes) (v : Nat) (hv : fitsU s v) :
    decU r (p ++ encU s v) =
      if fitsU r v then .ok (v, (encU s v).length) else .err .overflow 0 := by
  cases s with
  | w16 | w32 =>
    simp only [fitsU] at hv
    have h := revU32_put p v (by omega)
    cases r <;> simp only [encU, encUint16, encUint32, decU, decodeUint16_eq, decodeUint32_eq, decodeUint64_eq] <;>
      exact decodeVarint_of32 p (by decide) h (putRevU32_pos _)
        (by simp only [fitsU, false_iff, Decidable.not_not]; omega)
  | w64 =>
    simp only [fitsU] at hv
    have h := revU64_put p v (by omega)
    cases r <;> simp only [encU, encUint64, decU, decodeUint16_eq, decodeUint32_eq, decodeUint64_eq] <;>
      exact decodeVarint_of64 p (by decide) h (putRevU64_pos _)
        (by simp only [fitsU, false_iff, Decidable.not_not]; omega)

theorem int_roundtrip (w : W) (p : Bytes) (v : Int) (hv : fitsI w v) :
    decI w (p ++ encI w v) = .ok (v, (encI w v).length) := by
  rw [int_cross w w p v hv, if_pos hv]

theorem uint_roundtrip (w : W) (p : Bytes) (v : Nat) (hv : fitsU w v) :
    decU w (p ++ encU w v) = .ok (v, (encU w v).length) := by
  rw [uint_cross w w p v hv, if_pos hv]

theorem bool_roundtrip (p : Bytes) (v : Bool) :
    decodeBool (p ++ encBool v) = .ok (v, (encBool v).length) := by
  rw [encBool, decodeBool_snoc]; cases v <;> rfl

theorem byte_roundtrip (p : Bytes) (v : UInt8) :
    decodeByte (p ++ encByte v) = .ok (v, (encByte v).length) := by
  rw [encByte, show p ++ [v, tByte] = p ++ [v] ++ [tByte] by simp, decodeByte_snoc, if_neg (by simp),
    fixedBody_enc 1 0 _ p [v] rfl]
  rfl

theorem bin64_roundtrip (p v : Bytes) (h : v.length = 8) :
    decodeBin64 (p ++ encBin64 v) = .ok (v, (encBin64 v).length) := decodeBin_enc 8 p v h

theorem bin128_roundtrip (p v : Bytes) (h : v.length = 16) :
    decodeBin128 (p ++ encBin128 v) = .ok (v, (encBin128 v).length) := decodeBin_enc 16 p v h

theorem bin256_roundtrip (p v : Bytes) (h : v.length = 32) :
    decodeBin256 (p ++ encBin256 v) = .ok (v, (encBin256 v).length) := decodeBin_enc 32 p v h

/-- Byte strings of any content (length below 2^32; the encoder refuses more than MaxSize). -/
theorem bytes_roundtrip (p v : Bytes) (h : v.length < 2 ^ 32) :
    decodeBytes (p ++ encBytes v) = .ok (v, (encBytes v).length) := by
  have hb := sizedBody_enc 0 (fun _ => 0) (sizedData 0) p v [] rfl h
  rw [sizedData_enc 0 p v [] rfl h] at hb
  simp only [List.append_nil] at hb
  rw [encBytes, ← List.append_assoc, ← List.append_assoc, decodeBytes_snoc, if_neg (by simp), hb]
  simp only [List.length_append, List.length_singleton]

/-- Strings of any content, embedded NUL bytes included. -/
theorem string_roundtrip (p v : Bytes) (h : v.length < 2 ^ 32) :
    decodeString (p ++ encString v) = .ok (v, (encString v).length) := by
  have hb := sizedBody_enc 1 stringErrN (sizedData 1) p v [0] rfl h
  rw [sizedData_enc 1 p v [0] rfl h] at hb
  rw [encString, ← List.append_assoc, ← List.append_assoc, ← List.append_assoc, decodeString_snoc,
    if_neg (by simp), hb]
  simp only [List.length_append, List.length_singleton]

/-- float64 is stored and read back as its bit pattern: ±Inf, every NaN payload, −0 included. -/
theorem float64_roundtrip (F : FloatOps) (p : Bytes) (x : Nat) (h : x < 2 ^ 64) :
    decodeFloat64 F (p ++ encFloat64 x) = .ok (x, (encFloat64 x).length) := by
  rw [encFloat64, ← List.append_assoc, decodeFloat64_eq, floatDec_snoc, if_neg (by decide), if_pos rfl,
    fixedBody_enc 8 0 _ p _ (toBE_length 8 x), be_toBE 8 x (by omega), List.length_append, toBE_length]
  rfl

/-- float32 read as float64: exactly the IEEE widening of the stored bit pattern. -/
theorem float32_as_float64 (F : FloatOps) (p : Bytes) (x : Nat) (h : x < 2 ^ 32) :
    decodeFloat64 F (p ++ encFloat32 x) = .ok (F.widen x, (encFloat32 x).length) := by
  rw [encFloat32, ← List.append_assoc, decodeFloat64_eq, floatDec_snoc, if_pos rfl, fixedBody_enc 4 0 _ p _ (toBE_length 4 x),
    be_toBE 4 x (by omega), List.length_append, toBE_length]
  rfl

/-- What the decoders need from the float conversions. The laws are proved for the bit-level IEEE model
`IEEE.ieee` (`ieee_laws`, from Lemmas/IEEE.lean), and the drivers run the decoders with exactly that
model, so every float decode of the differential streams compares it with Go's conversions on this
platform. -/
structure FloatLaws (F : FloatOps) : Prop where
  narrow_widen : ∀ x, x < 2 ^ 32 → ¬ IEEE.isSNaN32 x → F.narrow (F.widen x) = x
  narrow_widen_snan : ∀ x, x < 2 ^ 32 → IEEE.isSNaN32 x → F.narrow (F.widen x) = x + 2 ^ 22
  widen_in_range : ∀ x, x < 2 ^ 32 →
    F.isInf (F.widen x) = true ∨ (F.ltNegMax (F.widen x) = false ∧ F.gtMax (F.widen x) = false)

theorem ieee_laws : FloatLaws IEEE.ieee :=
  ⟨IEEE.narrow_widen, IEEE.narrow_widen_snan, IEEE.widen_in_range⟩

theorem narrowChecked_widen {F : FloatOps} (L : FloatLaws F) (x : Nat) (h : x < 2 ^ 32) :
    narrowChecked F (F.widen x) = some (F.narrow (F.widen x)) := by
  unfold narrowChecked
  rcases L.widen_in_range x h with hi | ⟨h1, h2⟩
  · rw [if_pos hi]
  · rw [h1, h2]; simp

/-- DecodeFloat32 on float32 data always succeeds (never an overflow error) with the widened and
re-narrowed pattern and the encoded size -/
theorem float32_decodes (F : FloatOps) (L : FloatLaws F) (p : Bytes) (x : Nat) (h : x < 2 ^ 32) :
    decodeFloat32 F (p ++ encFloat32 x) = .ok (F.narrow (F.widen x), (encFloat32 x).length) := by
  rw [encFloat32, ← List.append_assoc, decodeFloat32_eq, floatDec_snoc, if_pos rfl, fixedBody_enc 4 0 _ p _ (toBE_length 4 x),
    be_toBE 4 x (by omega), narrowChecked_widen L x h, List.length_append, toBE_length]
  rfl

/-- float32 round trip, bit-exact: every finite value, ±0, subnormals, ±Inf (which the unrepaired
decoder rejected as overflow) and every quiet NaN payload -/
theorem float32_roundtrip (F : FloatOps) (L : FloatLaws F) (p : Bytes) (x : Nat) (h : x < 2 ^ 32)
    (hn : ¬ IEEE.isSNaN32 x) :
    decodeFloat32 F (p ++ encFloat32 x) = .ok (x, (encFloat32 x).length) := by
  rw [float32_decodes F L p x h, L.narrow_widen x h hn]

/-- the one exception: a signalling NaN reads back as a NaN with the quiet bit set (the IEEE
conversion float32 -> float64 -> float32 inside DecodeFloat32 quiets it); it is still a NaN -/
theorem float32_snan_quieted (F : FloatOps) (L : FloatLaws F) (p : Bytes) (x : Nat) (h : x < 2 ^ 32)
    (hn : IEEE.isSNaN32 x) :
    decodeFloat32 F (p ++ encFloat32 x) = .ok (x + 2 ^ 22, (encFloat32 x).length) := by
  rw [float32_decodes F L p x h, L.narrow_widen_snan x h hn]

/-- the statements for the concrete conversions, without hypotheses about the platform -/
theorem float32_roundtrip_ieee (p : Bytes) (x : Nat) (h : x < 2 ^ 32) (hn : ¬ IEEE.isSNaN32 x) :
    decodeFloat32 IEEE.ieee (p ++ encFloat32 x) = .ok (x, (encFloat32 x).length) :=
  float32_roundtrip IEEE.ieee ieee_laws p x h hn

/-- float32 read through the float64 accessor and back is the identity: widening is exact -/
theorem float32_widen_exact (x : Nat) (h : x < 2 ^ 32) (hn : ¬ IEEE.isSNaN32 x) :
    IEEE.narrow (IEEE.widen x) = x := IEEE.narrow_widen x h hn

/-- float64 read as float32: narrowed when infinite or inside the float32 range, overflow error
otherwise — never another outcome. -/
theorem float64_as_float32 (F : FloatOps) (p : Bytes) (y : Nat) (h : y < 2 ^ 64) :
    decodeFloat32 F (p ++ encFloat64 y) =
      if F.isInf y then .ok (F.narrow y, 9)
      else if F.ltNegMax y ∨ F.gtMax y then .err .overflow 0
      else .ok (F.narrow y, 9) := by
  rw [encFloat64, ← List.append_assoc, decodeFloat32_eq, floatDec_snoc, if_neg (by decide), if_pos rfl,
    fixedBody_enc 8 0 _ p _ (toBE_length 8 y), be_toBE 8 y (by omega), narrowChecked, ite_ite_same]
  symm  -- `split` then takes the tests in the order of the statement
  split
  · rfl
  · split <;> rfl

/-- the same for the concrete conversions, with the condition spelled out on the bit pattern: an
overflow error exactly when the stored float64 is finite with a magnitude above MaxFloat32; every
other pattern (in range - rounded to nearest even when it is not exactly a float32 -, ±Inf, NaN) is
narrowed -/
theorem float64_as_float32_ieee (p : Bytes) (y : Nat) (h : y < 2 ^ 64) :
    decodeFloat32 IEEE.ieee (p ++ encFloat64 y) =
      if IEEE.maxF32 < y % 2 ^ 63 ∧ y % 2 ^ 63 < 2047 * 2 ^ 52 then .err .overflow 0
      else .ok (IEEE.narrow y, 9) := by
  rw [float64_as_float32 IEEE.ieee p y h]
  show (if IEEE.isInf y = true then _ else if IEEE.ltNegMax y = true ∨ IEEE.gtMax y = true then _ else _) = _
  by_cases ho : IEEE.maxF32 < y % 2 ^ 63 ∧ y % 2 ^ 63 < 2047 * 2 ^ 52
  · obtain ⟨h1, h2⟩ := (IEEE.overflow_iff y).mpr ho
    rw [if_pos ho, if_neg (by simp [h1]), if_pos h2]
  · have hno := mt (IEEE.overflow_iff y).mp ho
    rw [if_neg ho]
    split
    · rfl
    · rw [if_neg (fun h2 => hno ⟨Bool.eq_false_iff.mpr ‹_›, h2⟩)]; rfl

/-! ### non-vacuity: concrete instances of the hypotheses -/

example : fitsI .w64 (-9223372036854775808) ∧ ¬ fitsI .w32 (-9223372036854775808) := by decide
example : decI .w16 ([1, 2, 0xfd] ++ encI .w64 40000) = .err .overflow 0 := by
  rw [int_cross .w64 .w16 _ _ (by decide), if_neg (by decide)]
example : decU .w32 ([0xff] ++ encU .w16 65535) = .ok (65535, 4) := by
  rw [uint_cross .w16 .w32 _ _ (by decide), if_pos (by decide)]
  have : (encU .w16 65535).length = 4 := by decide
  rw [this]

end SpecVerif.C10
