/-
No lost wake-up between a byte queue and its reader loop (supports C03 "the receiver drains every
pending message", C07 "never deadlocks", C09 liveness of the send loop).

For EVERY interleaving of writes (to the last block or to a new overflow block) with the reader
loop of the repaired code (`wait := ReadWait()` BEFORE reading until empty, then blocking on
`wait`): whenever the reader is blocked while a message is queued, its wake-up is enabled
(`parked_nonempty_wakes`), so a reader never sleeps on a non-empty queue (`reader_never_stuck`).
The order used before the repair (read until empty, THEN `ReadWait()`) does lose the wake-up:
`unrepaired_lost_wakeup` is the five-step schedule (it is the replay of finding F19).
-/
import SpecVerif.Mpx.Wake
import SpecVerif.PinnedMpx
namespace SpecVerif.WakeProps
open SpecVerif.Mpx.Wake

structure Inv (s : State) : Prop where
  parked : s.pc = .park → queueEmpty s = true ∨ s.written = true
  posted : (s.pc = .drain ∨ s.pc = .park) → s.waitClosed = false → s.written = true → s.token = true
  closedSeen : (s.pc = .drain ∨ s.pc = .park) → s.closed = true → s.waitClosed = true ∨ s.written = true

theorem inv_init : Inv init := ⟨by simp [init], by simp [init], by simp [init]⟩

/-- right after a write or a close the token is posted and `written` is set -/
theorem inv_of_written {s : State} (hw : s.written = true) (ht : s.token = true) : Inv s :=
  ⟨fun _ => .inr hw, fun _ _ _ => ht, fun _ _ => .inr hw⟩

/-- all clauses are about a reader that holds a `wait` -/
theorem inv_of_start {s : State} (h : s.pc = .start) : Inv s :=
  ⟨fun c => by simp [h] at c, fun c => by simp [h] at c, fun c => by simp [h] at c⟩

theorem inv_step (s s' : State) (a : Action) (hi : Inv s) (h : step s a = some s') : Inv s' := by
  cases a <;> simp only [step, Option.some.injEq] at h
  case writeLast => subst h; split <;> exact inv_of_written rfl rfl
  case writeNew => subst h; exact inv_of_written rfl rfl
  case close => subst h; exact inv_of_written rfl rfl
  case readWait =>
    split at h
    · split at h <;> cases h
      · exact ⟨nofun, nofun, fun _ _ => .inl rfl⟩
      next hn => exact ⟨nofun, nofun, fun _ c => by simp [show s.closed = true from c] at hn⟩
    · cases h
  case read =>
    split at h
    next hd =>
      have hp : ¬ s.pc = .park := by simp [hd]
      split at h
      · cases h; exact { hi with parked := fun c => absurd c hp }
      · split at h <;> cases h
        · exact { hi with parked := fun c => absurd c hp }
        next hh _ hm =>
          have : s.head = 0 := by omega
          exact ⟨fun _ => .inl (by simp [queueEmpty, this, hm]), fun _ => hi.posted (.inl hd),
            fun _ => hi.closedSeen (.inl hd)⟩
    · cases h
  case restart =>
    split at h <;> cases h
    exact inv_of_start rfl
  case wake =>
    split at h
    · split at h
      · cases h; exact inv_of_start rfl
      · split at h <;> cases h
        exact inv_of_start rfl
    · cases h

theorem inv_run (s : State) (hi : Inv s) (as : List Action) : Inv (run s as) := by
  induction as generalizing s with
  | nil => exact hi
  | cons a as ih =>
    simp only [run]
    cases h : step s a with
    | none => exact ih s hi
    | some s' => exact ih s' (inv_step s s' a hi h)

theorem inv_reachable (as : List Action) : Inv (run init as) := inv_run _ inv_init as

theorem Inv.wakes {s : State} (hi : Inv s) (hp : s.pc = .park)
    (h : s.waitClosed = true ∨ s.written = true) : (step s .wake).isSome = true := by
  simp only [step, hp, ↓reduceIte]
  cases hc : s.waitClosed
  · simp [hi.posted (.inr hp) hc (h.resolve_left (by simp [hc]))]
  · simp

theorem parked_nonempty_wakes (as : List Action) (hp : (run init as).pc = .park)
    (hq : queueEmpty (run init as) = false) : (step (run init as) .wake).isSome = true :=
  (inv_reachable as).wakes hp (.inr (((inv_reachable as).parked hp).resolve_left (by simp [hq])))

/-- a reader blocked in its select when the queue is (or gets) closed is always woken -/
theorem parked_closed_wakes (as : List Action) (hp : (run init as).pc = .park)
    (hc : (run init as).closed = true) : (step (run init as) .wake).isSome = true :=
  (inv_reachable as).wakes hp ((inv_reachable as).closedSeen (.inr hp) hc)

theorem reader_never_stuck (as : List Action) (hq : queueEmpty (run init as) = false) :
    (step (run init as) .readWait).isSome = true ∨ (step (run init as) .read).isSome = true ∨
    (step (run init as) .wake).isSome = true := by
  cases hpc : (run init as).pc
  · left; simp only [step, hpc, ↓reduceIte]; split <;> rfl
  · right; left
    simp only [step, hpc, ↓reduceIte]
    split
    · rfl
    · split <;> rfl
  · right; right; exact parked_nonempty_wakes as hpc hq

/-- non-vacuity: a reachable state with the reader parked on a non-empty queue -/
example : (run init [.readWait, .read, .writeNew]).pc = .park ∧
    queueEmpty (run init [.readWait, .read, .writeNew]) = false := by decide

/-- the unrepaired order loses the wake-up: one message written to the head block and read, the
reader finds the queue empty, a second message lands in an overflow block and posts the
notification, `ReadWait()` sees an empty head block, consumes the notification and the reader
blocks for ever with the message queued -/
theorem unrepaired_lost_wakeup :
    let s := oldRun oldInit [.writeLast, .read, .read, .writeNew, .readWait]
    s.pc = .park ∧ s.more = [1] ∧ s.token = false ∧ s.waitClosed = false ∧ oldStep s .wake = none := by
  decide

/-! ### the four reader loops of the code take `wait` before they read (pinned event sequences,
tied to /repo by `TiesMpx`) -/

/-- in the loop body the first event is the ReadWait/ReceiveWait call, the read comes after it, and
the select blocks on that very `wait` value, never on a fresh call -/
def waitsBeforeReading (ev : List String) (waitCall readCall : String) : Bool :=
  ev.idxOf waitCall < ev.idxOf readCall && ev.idxOf readCall < ev.length &&
  ev.contains "select-case <-wait" && (ev.filter (· == waitCall)).length == 1

theorem sendLoop_order :
    waitsBeforeReading PinnedMpx.ev_conn_sendLoop "call c.writeq.ReadWait()" "call c.writeq.Read()" = true := by
  decide +kernel
theorem channel_Receive_order :
    waitsBeforeReading PinnedMpx.ev_channel_Receive "call ch.ReceiveWait()" "call ch.ReceiveAsync(ctx)" = true := by
  decide +kernel
theorem rpc_client_Receive_order :
    waitsBeforeReading PinnedMpx.ev_rpc_client_Receive "call ch.ReceiveWait()" "call ch.ReceiveAsync(ctx)" = true := by
  decide +kernel
theorem rpc_server_Receive_order :
    waitsBeforeReading PinnedMpx.ev_rpc_server_Receive "call ch.ReceiveWait()" "call ch.ReceiveAsync(ctx)" = true := by
  decide +kernel

end SpecVerif.WakeProps
