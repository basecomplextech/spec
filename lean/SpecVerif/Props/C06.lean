/-
C06 — Ending one channel never disturbs the connection or other channels.

The library can only disturb the connection by panicking in one of its loops (a panic inside the
receive or send loop ends the connection and with it every other channel) or by returning an error
from the dispatch of a frame.  The theorems are about the reference-counting protocol of a channel
(`Mpx/Chan.lean`, the repaired code) under ALL interleavings of: the user's calls and its single
Free (or handler exit), any number of connection-side frees (send loop after a close frame,
receiveClose, closeChannels) and any number of receive-loop dispatches with a stale map pointer:
 * no reachable state is a panic state (`no_panic`), for schedules of any length;
 * the counter always equals the number of holders and the pooled state is released exactly once,
   by the last holder, never while somebody holds it (`inv_reachable`);
 * a frame that arrives after the channel was freed is dropped (`late_frame_dropped`).
`unrepaired_counterexample` replays the schedule (`crashSchedule`) that crashed the pinned code.
-/
import SpecVerif.Mpx.Chan
namespace SpecVerif.C06
open SpecVerif.Mpx.Chan

theorem inv_init : Mpx.Chan.Inv init :=
  ⟨by decide, by decide, by decide, by decide, by decide⟩

theorem held {s : State} (h : Mpx.Chan.Inv s) (hpos : s.refs > 0) : s.hasState = true ∧ s.swapPending = 0 := by
  refine ⟨h.state_iff.mpr (.inl hpos), ?_⟩
  have := h.swap_le
  have := h.swap_zero
  omega

/- What the three primitives do to the invariant while a reference is held. The program counters
and the receive counters are arbitrary: `count` for the new state is the caller's arithmetic. -/

theorem inv_acquire {s : State} (h : Mpx.Chan.Inv s) (hpos : s.refs > 0) {u : UPC}
    (hc : s.refs + 1 = userBase u + userExtra u + connBase s.conn + connExtra s.conn + s.recvPre + s.recvHold) :
    Mpx.Chan.Inv { acquireAdd s with user := u } := by
  obtain ⟨hh, h0⟩ := held h hpos
  refine ⟨hc, h.swap_le, fun h1 => by simp only [acquireAdd] at h1; omega, ?_, ?_⟩
  · simp only [acquireAdd, hh, true_iff]; omega
  · simp only [acquireAdd, h.no_panic, Bool.false_or, decide_eq_false_iff_not]; omega

theorem inv_load {s : State} (h : Mpx.Chan.Inv s) (hpos : s.refs > 0) (u : UPC) (c : CPC) (pre hold : Nat)
    (hc : s.refs = userBase u + userExtra u + connBase c + connExtra c + pre + hold) :
    Mpx.Chan.Inv { loadState s with user := u, conn := c, recvPre := pre, recvHold := hold } :=
  ⟨hc, h.swap_le, h.swap_zero, h.state_iff, by simp [loadState, h.no_panic, (held h hpos).1]⟩

theorem inv_release {s : State} (h : Mpx.Chan.Inv s) (hpos : s.refs > 0) (u : UPC) (c : CPC) (hold : Nat)
    (hc : s.refs - 1 = userBase u + userExtra u + connBase c + connExtra c + s.recvPre + hold) :
    Mpx.Chan.Inv { release s with user := u, conn := c, recvHold := hold } := by
  obtain ⟨hh, h0⟩ := held h hpos
  refine ⟨hc, ?_, ?_, ?_, h.no_panic⟩ <;> simp only [release, hh, true_iff] <;> split <;> omega

theorem conn_nonneg (c : CPC) : 0 ≤ connBase c + connExtra c := by cases c <;> decide

theorem user_nonneg (u : UPC) : 0 ≤ userBase u + userExtra u := by cases u <;> decide

/- A transition writes a few fields, so `{ hi with clause := … }` restates only the clauses that read
them; the others are taken from `hi`, whose statements about the updated record unfold to those about `s`. -/
theorem inv_step (s s' : State) (a : Action) (hi : Mpx.Chan.Inv s) (h : step s a = some s') : Mpx.Chan.Inv s' := by
  have hc := hi.count
  have cb := conn_nonneg s.conn
  have ub := user_nonneg s.user
  cases a <;> simp only [step, Option.ite_none_right_eq_some, Option.some.injEq] at h
  case userCall | userFree =>
    obtain ⟨hu, rfl⟩ := h
    exact { hi with count := by rw [hu] at hc; exact hc }
  case userStep =>
    split at h <;> cases h
    all_goals
      rename_i hu
      simp only [hu, userBase, userExtra] at hc
    · exact inv_acquire hi (by omega) (by simp only [userBase, userExtra]; omega)
    · exact inv_load hi (by omega) _ s.conn s.recvPre s.recvHold (by simp only [userBase, userExtra]; omega)
    · exact inv_release hi (by omega) _ s.conn s.recvHold (by simp only [userBase, userExtra]; omega)
    · exact inv_acquire hi (by omega) (by simp only [userBase, userExtra]; omega)
    · exact inv_load hi (by omega) _ s.conn s.recvPre s.recvHold (by simp only [userBase, userExtra]; omega)
    · exact inv_release hi (by omega) _ s.conn s.recvHold (by simp only [userBase, userExtra]; omega)
    · exact inv_release hi (by omega) _ s.conn s.recvHold (by simp only [userBase, userExtra]; omega)
  case connFree =>
    split at h <;> cases h
    next hcn => exact { hi with count := by simp only [hcn, connBase, connExtra] at hc ⊢; omega }
    · exact hi
  case connStep =>
    split at h <;> cases h
    all_goals
      rename_i hcn
      simp only [hcn, connBase, connExtra] at hc
    · exact inv_load hi (by omega) s.user _ s.recvPre s.recvHold (by simp only [connBase, connExtra]; omega)
    · exact inv_release hi (by omega) s.user _ s.recvHold (by simp only [connBase, connExtra]; omega)
  case recvAcquire =>
    split at h <;> cases h
    next hpos =>
      obtain ⟨hh, h0⟩ := held hi hpos
      exact { hi with
        count := by simp only; omega
        swap_zero := fun h1 => by simp only at h1; omega
        state_iff := by simp only [hh, true_iff]; omega }
    · exact { hi with }
  case recvLoad =>
    obtain ⟨hpre, rfl⟩ := h
    exact inv_load hi (by omega) s.user s.conn _ _ (by omega)
  case recvRelease =>
    obtain ⟨hh0, rfl⟩ := h
    exact inv_release hi (by omega) s.user s.conn _ (by omega)
  case swap =>
    obtain ⟨hsw, rfl⟩ := h
    have h1 : s.swapPending = 1 := by have := hi.swap_le; omega
    have hr := hi.swap_zero h1
    exact { hi with
      swap_le := by simp only; omega
      swap_zero := fun _ => hr
      state_iff := by simp only [h1, hr]; decide
      no_panic := by simp [hi.no_panic, hi.state_iff.mpr (.inr h1)] }

theorem inv_run (s : State) (hi : Mpx.Chan.Inv s) (as : List Action) : Mpx.Chan.Inv (run s as) := by
  induction as generalizing s with
  | nil => exact hi
  | cons a as ih =>
    simp only [run]
    cases h : step s a with
    | none => exact ih s hi
    | some s' => exact ih s' (inv_step s s' a hi h)

theorem inv_reachable (as : List Action) : Mpx.Chan.Inv (run init as) := inv_run _ inv_init as

theorem no_panic (as : List Action) : (run init as).panic = false := (inv_reachable as).no_panic

theorem state_while_held (as : List Action) (h : (run init as).refs > 0) :
    (run init as).hasState = true := (inv_reachable as).state_iff.mpr (Or.inl h)

theorem late_frame_dropped (s : State) (h : Mpx.Chan.Inv s) (hr : s.refs = 0) :
    step s .recvAcquire = some { s with dropped := s.dropped + 1 } := by
  simp only [step]
  have : ¬ s.refs > 0 := by omega
  simp [this]

/-! ### the unrepaired protocol: `receive` used `acquire` (Add, then test for 1) on a pointer taken
from the map before the send loop deleted and freed the channel.  Replaying that schedule on the
model with the old receive step reaches the panic. -/

def oldRecvAcquire (s : State) : State := acquireAdd s

/-- user frees (4 steps), the send loop frees the connection reference (3 steps), the state is
swapped out, then the receive loop acquires through its stale pointer -/
def crashSchedule : List Action :=
  [.userFree, .userStep, .userStep, .userStep, .userStep, .connFree, .connStep, .connStep, .swap]

theorem unrepaired_counterexample :
    (oldRecvAcquire (run init crashSchedule)).panic = true ∧ (run init crashSchedule).hasState = false := by
  decide

/-- the same schedule followed by the repaired dispatch drops the frame -/
example : (run init (crashSchedule ++ [.recvAcquire])).panic = false ∧
    (run init (crashSchedule ++ [.recvAcquire])).dropped = 1 := by decide

end SpecVerif.C06
