/-
C15, character level — the token sequence is independent of white space and comments.

`lex_layout`: take ANY sequence of lexemes (identifiers/keywords, decimal literals the lexer accepts,
string literals without escapes, punctuation) and put ANY separator — a run of blanks, tabs,
newlines, carriage returns, `//` comments (any NUL-free ASCII text up to the newline) and `/* */`
comments (any NUL-free ASCII text not containing the closing sequence) — in front, behind and
between them; a separator may be empty wherever the next lexeme starts with a character that cannot
continue the previous one (e.g. between a name and '(' but not between two names). The lexer model
returns exactly the tokens of the lexemes, in order: no comment content leaks into the token
stream, nothing is merged or split.

`parse_layout`: composed with `C15.parse_print`: every such rendering of the canonical tokens of a
well-formed tree lexes and parses to exactly that tree.
-/
import SpecVerif.Lemmas.LangLex
import SpecVerif.Props.C15
namespace SpecVerif.C15
open SpecVerif.Lang

/-- separator + lexeme pairs after the first lexeme -/
def renderRest (items : List (List SepElem × Lexeme)) : List Char :=
  (items.map fun it => sepChars it.1 ++ it.2.chars).flatten

/-- between two lexemes the separator is non-empty unless the second starts with a boundary
character of the first -/
def Chain : Lexeme → List (List SepElem × Lexeme) → Prop
  | _, [] => True
  | l, (sep, l') :: rest => (sep ≠ [] ∨ ∀ c cs, l'.chars = c :: cs → boundary l c) ∧ Chain l' rest

theorem renderRest_cons (sep : List SepElem) (l : Lexeme) (items : List (List SepElem × Lexeme)) :
    renderRest ((sep, l) :: items) = sepChars sep ++ l.chars ++ renderRest items := rfl

/-- `lex_layout` from the first lexeme on, with the tokens read so far as a parameter for the induction -/
theorem run_items (l : Lexeme) (hl : l.OK) (items : List (List SepElem × Lexeme))
    (hi : ∀ it ∈ items, it.2.OK ∧ ∀ e ∈ it.1, e.OK) (hc : Chain l items) (sepEnd : List SepElem)
    (he : ∀ e ∈ sepEnd, e.OK) (out : List Tok) :
    finish (run (pend out l) (renderRest items ++ sepChars sepEnd)) =
      some (out.reverse ++ l.tok :: items.map fun it => it.2.tok) := by
  induction items generalizing l out with
  | nil => exact (run_pend_sep l hl sepEnd he out).trans (by simp)
  | cons it items ih =>
    obtain ⟨sep, l'⟩ := it
    obtain ⟨hl', hsep⟩ := hi (sep, l') (by simp)
    rw [renderRest_cons, List.append_assoc, run_append, run_pend_next l l' hl hl' sep hsep hc.1 out,
      ih l' hl' (fun x hx => hi x (by simp [hx])) hc.2 (l.tok :: out)]
    simp

theorem lex_layout (sep0 : List SepElem) (l : Lexeme) (items : List (List SepElem × Lexeme)) (sepEnd : List SepElem)
    (h0 : ∀ e ∈ sep0, e.OK) (hl : l.OK) (hi : ∀ it ∈ items, it.2.OK ∧ ∀ e ∈ it.1, e.OK)
    (hc : Chain l items) (he : ∀ e ∈ sepEnd, e.OK) :
    lexChars (sepChars sep0 ++ l.chars ++ renderRest items ++ sepChars sepEnd) =
      some (l.tok :: items.map fun it => it.2.tok) := by
  rw [lexChars_eq_run, List.append_assoc, List.append_assoc, run_append, run_sep sep0 h0, run_append,
    run_lexeme l hl, run_items l hl items hi hc sepEnd he []]
  rfl

theorem lex_blank (sep : List SepElem) (h : ∀ e ∈ sep, e.OK) : lexChars (sepChars sep) = some [] := by
  rw [lexChars_eq_run, run_sep sep h]
  rfl

theorem parse_layout (f : File) (hf : f.WF) (sep0 : List SepElem) (l : Lexeme)
    (items : List (List SepElem × Lexeme)) (sepEnd : List SepElem)
    (h0 : ∀ e ∈ sep0, e.OK) (hl : l.OK) (hi : ∀ it ∈ items, it.2.OK ∧ ∀ e ∈ it.1, e.OK)
    (hc : Chain l items) (he : ∀ e ∈ sepEnd, e.OK)
    (htoks : (l.tok :: items.map fun it => it.2.tok) = f.toks) :
    (lexChars (sepChars sep0 ++ l.chars ++ renderRest items ++ sepChars sepEnd)).bind parseFile = some f := by
  rw [lex_layout sep0 l items sepEnd h0 hl hi hc he, htoks]
  exact parse_print f hf

instance (l : Lexeme) : Decidable l.OK := by
  cases l <;> unfold Lexeme.OK <;> infer_instance

instance (e : SepElem) : Decidable e.OK := by
  cases e <;> unfold SepElem.OK <;> infer_instance

/-- non-vacuity: `message A{a int32 1}` with comments, no blank before '{' -/
example :
    let sp : List SepElem := [.ws ' ']
    let l : Lexeme := .word 'm' "essage".toList
    let items : List (List SepElem × Lexeme) :=
      [([.block " * x ".toList], .word 'A' []), ([], .punct '{'), ([.line "c".toList], .word 'a' []),
       (sp, .word 'i' "nt32".toList), (sp, .num ['1'] (.int 1)), ([], .punct '}')]
    l.OK ∧ (∀ it ∈ items, it.2.OK ∧ ∀ e ∈ it.1, e.OK) ∧ Chain l items ∧
    lexChars (sepChars [] ++ l.chars ++ renderRest items ++ sepChars []) =
      some [.kw .message, .ident "A", .p '{', .ident "a", .ident "int32", .int 1, .p '}'] := by
  refine ⟨by decide +kernel, by decide +kernel, ?_, by decide +kernel⟩
  simp [Chain, boundary, Lexeme.chars] <;> decide

end SpecVerif.C15
