/-
C16 — Messages stay readable across schema evolution.

A reader of another schema version reads by tag. The theorems are corollaries of C01's field
theorems, which hold for ARBITRARY surrounding fields `l`, `r` (any other tags, any order):
fields common to both versions read back unchanged, unknown fields disturb nothing, absent fields
read as zero with presence false.
`copy_preserves`: a writer that writes ANY fields of its own (any value trees, any tags) and then
Copies/Merges from a well-formed source message — the writer model's `copyMsg` loop over the source
table: TagAt, HasField on the destination, FieldAt, raw field write — answers `ok` to every call and
builds a message in which every source field with a tag the writer did not write (known to the
writer's schema or not) reads back with exactly its source value, and every field the writer wrote
reads back as written (Lemmas/WriterCopy.lean). The stream `merge-preserves-unknown` runs the same
programs on the Go writer.
-/
import SpecVerif.Props.C01
import SpecVerif.Lemmas.WriterCopy
namespace SpecVerif.C16
open SpecVerif Pinned

/-- adding, removing, renaming (same tag) or reordering other fields changes nothing for a field both
versions have -/
theorem common_field_unchanged (p p' : Bytes) (tag : Nat) (v : Bytes) (hv : Delim v)
    (l r l' r' : List (Nat × Bytes))
    (wf : MsgWF (l ++ (tag, v) :: r)) (wf' : MsgWF (l' ++ (tag, v) :: r')) :
    ∃ M M', openMessageErr (p ++ encMsg (l ++ (tag, v) :: r)) = .ok M ∧
      openMessageErr (p' ++ encMsg (l' ++ (tag, v) :: r')) = .ok M' ∧
      M.field tag = .ok v ∧ M'.field tag = .ok v ∧ M.hasField tag = .ok true ∧ M'.hasField tag = .ok true := by
  obtain ⟨M, h1, _, h2, h3⟩ := C01.msg_field_found p l tag v r wf hv
  obtain ⟨M', h1', _, h2', h3'⟩ := C01.msg_field_found p' l' tag v r' wf' hv
  exact ⟨M, M', h1, h1', h3, h3', h2, h2'⟩

/-- a field the data does not have reads as absent: presence false, nil bytes, hence the zero value
with size 0 through every typed accessor (`C01.absent_reads_zero`) -/
theorem absent_field_zero (p : Bytes) (fs : List (Nat × Bytes)) (wf : MsgWF fs) (tag : Nat)
    (habs : tag ∉ fs.map (·.1)) :
    ∃ M, openMessageErr (p ++ encMsg fs) = .ok M ∧ M.hasField tag = .ok false ∧ M.field tag = .ok [] :=
  C01.msg_field_absent p fs wf tag habs

/-- reordering declarations = another write order: same lookups for every tag -/
theorem order_irrelevant (p : Bytes) (fs fs' : List (Nat × Bytes)) (wf : MsgWF fs) (wf' : MsgWF fs')
    (tag : Nat) (v : Bytes) (hv : Delim v) (h : (tag, v) ∈ fs) (h' : (tag, v) ∈ fs') :
    ∃ M M', openMessageErr (p ++ encMsg fs) = .ok M ∧ openMessageErr (p ++ encMsg fs') = .ok M' ∧
      M.field tag = M'.field tag := by
  obtain ⟨l, r, rfl⟩ := List.append_of_mem h
  obtain ⟨l', r', rfl⟩ := List.append_of_mem h'
  obtain ⟨M, M', h1, h2, h3, h4, _, _⟩ := common_field_unchanged p p tag v hv l r l' r' wf wf'
  exact ⟨M, M', h1, h2, by rw [h3, h4]⟩

/-- Copy/Merge through a writer that knows only some of the fields preserves the others -/
theorem copy_preserves (ws : Writer.Flds) (p : Bytes) (fs : List (Nat × Bytes)) (wf : MsgWF fs)
    (hd : ∀ f ∈ fs, Delim f.2) (wfw : MsgWF ws.encs) (hdw : ∀ f ∈ ws.encs, Delim f.2)
    (hsz : (((ws.encs ++ Writer.copiedOf (ws.encs.map (·.1)) fs).map (·.2)).flatten).length +
      6 * (ws.encs ++ Writer.copiedOf (ws.encs.map (·.1)) fs).length < 2 ^ 32)
    (buf q : Bytes) :
    ∃ b, Writer.BuiltLast (Writer.run (Writer.copyProg ws (p ++ encMsg fs)) buf) b ∧
      (∀ tag v, (tag, v) ∈ fs → tag ∉ ws.encs.map (·.1) →
        ∃ M, openMessageErr (q ++ b) = .ok M ∧ M.hasField tag = .ok true ∧ M.field tag = .ok v) ∧
      (∀ tag v, (tag, v) ∈ ws.encs →
        ∃ M, openMessageErr (q ++ b) = .ok M ∧ M.hasField tag = .ok true ∧ M.field tag = .ok v) := by
  have hwf := Writer.copy_result_wf ws.encs fs wfw wf hsz
  -- every field of the result, written or copied, is found under its tag
  have found : ∀ tag v, (tag, v) ∈ ws.encs ++ Writer.copiedOf (ws.encs.map (·.1)) fs → Delim v →
      ∃ M, openMessageErr (q ++ encMsg (ws.encs ++ Writer.copiedOf (ws.encs.map (·.1)) fs)) = .ok M ∧
        M.hasField tag = .ok true ∧ M.field tag = .ok v := by
    intro tag v hmem hv
    obtain ⟨l, r, hsplit⟩ := List.append_of_mem hmem
    rw [hsplit] at hwf ⊢
    obtain ⟨M, h1, _, h2, h3⟩ := C01.msg_field_found q l tag v r hwf hv
    exact ⟨M, h1, h2, h3⟩
  exact ⟨_, Writer.run_copyProg ws p fs wf hd buf,
    fun tag v hmem habs => found tag v
      (List.mem_append_right _ ((Writer.copiedOf_mem _ fs wf (tag, v)).mpr ⟨hmem, habs⟩)) (hd (tag, v) hmem),
    fun tag v hmem => found tag v (List.mem_append_left _ hmem) (hdw (tag, v) hmem)⟩

/-- the same at any nesting depth: in every live session whose innermost open container is a message
(whatever was written before, however deep), Copy/Merge from a well-formed source is answered `ok`
and leaves the session exactly as `Field(tag).Any(value)` calls for the source fields with tags the
message does not have yet would (in the order of the source table) -/
theorem copy_any_depth (s : Writer.Sess) (idx idx' h : Nat) (st : Writer.WState) (base : List Writer.Entry)
    (m : Writer.Entry) (p : Bytes) (fs : List (Nat × Bytes)) (wf : MsgWF fs) (hd : ∀ f ∈ fs, Delim f.2)
    (he : s.w.err = none) (hs : s.w.st = some st) (hst : st.stack = base ++ [m]) (hm : m.type_ = .message)
    (hts : m.tableStart ≤ st.fields.length) (hh : s.handles[h]? = some ⟨.M, false⟩) :
    Writer.step s idx (.copy h (p ++ encMsg fs)) =
        ((Writer.runFrom s idx' (Writer.rawFields h (Writer.copiedIn st m fs))).1, .ok) ∧
      Writer.AllOk (Writer.runFrom s idx' (Writer.rawFields h (Writer.copiedIn st m fs))).2 :=
  Writer.copy_eq_rawFields s idx idx' h st base m p fs wf hd he hs hst hm hts hh

/-- non-vacuity: the writer knows tag 1 only, the source has tags 1 and 300 — tag 300 is copied,
tag 1 is not -/
example : Writer.copiedOf [1] [(300, encByte 7), (1, encBool true)] = [(300, encByte 7)] := by decide

example : MsgWF [(1, encBool true), (300, encByte 7)] :=
  ⟨by decide, by intro f hf; simp at hf; rcases hf with h | h <;> subst h <;> decide, by decide⟩

end SpecVerif.C16
