/-
C15 — Schema parser records exactly what the source says, or errors.

 * `parse_print` (token level, all syntax trees): for EVERY well-formed syntax tree — any number of
   imports with or without alias, options, definitions of all five kinds, fields of every type form
   (builtin, local, qualified, `any`, `message`, lists), tags and enum numbers of any size, methods
   with every input/output/channel/oneway combination, contextual keywords as field, method and
   value names — the reference parser applied to the canonical tokens of the tree returns exactly
   that tree: nothing is dropped, reordered or altered. (Well-formed = names are what the lexer can
   produce: identifiers are not keywords, field names are identifiers or contextual keywords.)
 * `parse_injective`: two well-formed trees with the same canonical tokens are equal, i.e. the tree
   is determined by the token sequence (so a parser that returns a tree whose canonical tokens equal
   the source's tokens has recorded the source — this is the harness' `tokens-differ` oracle).
 * `lex_print` (character level): see Props/C15Lex.lean — the lexer model returns the same tokens
   for every choice of white space and comments between them.
Tie: the reference parser and lexer run against the implementation on every generated text
(valid renderings with random layout/optional separators, token- and character-level mutations,
the repository's own .spec files); grammar.y is pinned (regenerated production list) and
grammar.go is regenerated with goyacc (0 conflicts).
-/
import SpecVerif.Lemmas.LangParse
namespace SpecVerif.C15
open SpecVerif.Lang

/-- imports and options are read back whatever their names are: only the definitions have to be
well-formed -/
theorem parse_print_of_defs (f : File) (hds : ∀ d ∈ f.defs, d.WF) : parseFile f.toks = some f := by
  obtain ⟨is, os, ds⟩ := f
  simp only [parseFile, File.toks_eq, List.length_append]
  rw [importsP_toks is _ (sectionToks_head (by decide) _ os (defs_head ds (.inl rfl))) _ (by omega),
    Option.bind_some, optionsP_toks os _ (defs_head ds (.inr rfl)) _ (by omega), Option.bind_some,
    definitions_toks ds hds _ _ (by omega) (by omega)]
  rfl

theorem parse_print (f : File) (hf : f.WF) : parseFile f.toks = some f :=
  parse_print_of_defs f hf.2.2

theorem parse_injective (f g : File) (hf : f.WF) (hg : g.WF) (h : f.toks = g.toks) : f = g :=
  Option.some.inj ((parse_print f hf).symm.trans (h ▸ parse_print g hg))

/-- non-vacuity: a tree with every construct is well-formed and round-trips -/
def sample : File :=
  { imports := [⟨"", "a/b"⟩, ⟨"x", "c"⟩],
    options := [⟨"go_package", "p"⟩],
    defs := [
      .enum "E" [⟨"any", 0⟩, ⟨"B", 65536⟩],
      .message "M" [⟨"a", .base (.name "int32"), 1⟩, ⟨"message", .list (.ref "pkg" "T"), 65535⟩, ⟨"c", .base .anyMessage, 3⟩],
      .struct "S" [⟨"x", .base (.name "int64")⟩],
      .service false "Svc" [
        ⟨"m", .fields [⟨"a", .base (.name "A"), 1⟩], .chan (.both (.base (.name "A")) (.list (.name "B"))) (some (.fields []))⟩,
        ⟨"import", .type .any, .oneway⟩,
        ⟨"sub", .fields [], .out (.type (.ref "p" "Sub"))⟩],
      .service true "Sub" []] }

example : parseFile sample.toks = some sample := by decide +kernel

end SpecVerif.C15
