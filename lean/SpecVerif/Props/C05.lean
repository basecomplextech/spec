/-
C05 — Generated Go code is a faithful translation of the schema (model level).

The generated writer of a message writes, for each set field, `Field(tag)` followed by the encoder
of the declared kind; the generated reader calls `msg.Field(tag)` and the decoder of the declared
kind (the table kind → functions is regenerated from internal/lang/generator/type.go and tied, see
TiesLang).  The dynamic tag-based API and the generated accessors are the same functions of the bytes by
construction (`M.field tag` then the decoder), so they are interchangeable on the same bytes.
Enums are int32 on the wire (`SVal.enum`), nested messages, lists and structs are covered by C01's
theorems for arbitrary `Delim` values. Floats are bit patterns read with the bit-level IEEE conversions
(`IEEE.ieee`); the one float32 pattern class that does not come back bit-exactly, signalling NaNs
(C10.float32_snan_quieted), is excluded by `SVal.OK`.
-/
import SpecVerif.Props.C01
import SpecVerif.Props.C10
namespace SpecVerif.C05
open SpecVerif SpecVerif.C10

inductive SVal
  | bool (v : Bool)
  | byte (v : UInt8)
  | int (w : W) (v : Int)
  | uint (w : W) (v : Nat)
  | enum (v : Int)                 -- generated as int32
  | bin64 (v : Bytes)
  | bin128 (v : Bytes)
  | bin256 (v : Bytes)
  | bytes (v : Bytes)
  | string (v : Bytes)
  | f32 (bits : Nat)
  | f64 (bits : Nat)
  deriving DecidableEq, Repr

/-- the value is in the range of its Go type -/
def SVal.OK : SVal → Prop
  | .bool _ | .byte _ => True
  | .int w v => fitsI w v
  | .uint w v => fitsU w v
  | .enum v => fitsI .w32 v
  | .bin64 v => v.length = 8
  | .bin128 v => v.length = 16
  | .bin256 v => v.length = 32
  | .bytes v | .string v => v.length < 2 ^ 32
  | .f32 x => x < 2 ^ 32 ∧ ¬ IEEE.isSNaN32 x
  | .f64 x => x < 2 ^ 64

/-- what the generated writer appends for the field value: spec.EncodeX of the declared kind -/
def SVal.enc : SVal → Bytes
  | .bool v => encBool v
  | .byte v => encByte v
  | .int w v => encI w v
  | .uint w v => encU w v
  | .enum v => encI .w32 v
  | .bin64 v => encBin64 v
  | .bin128 v => encBin128 v
  | .bin256 v => encBin256 v
  | .bytes v => encBytes v
  | .string v => encString v
  | .f32 x => encFloat32 x
  | .f64 x => encFloat64 x

/-- what the generated reader computes from the field's bytes: spec.DecodeX of the declared kind
(the kind is that of `like`) -/
def decodeLike (like : SVal) (b : Bytes) : Res SVal :=
  match like with
  | .bool _ => match decodeBool b with | .ok (x, _) => .ok (.bool x) | .err e n => .err e n | .panic => .panic
  | .byte _ => match decodeByte b with | .ok (x, _) => .ok (.byte x) | .err e n => .err e n | .panic => .panic
  | .int w _ => match decI w b with | .ok (x, _) => .ok (.int w x) | .err e n => .err e n | .panic => .panic
  | .uint w _ => match decU w b with | .ok (x, _) => .ok (.uint w x) | .err e n => .err e n | .panic => .panic
  | .enum _ => match decI .w32 b with | .ok (x, _) => .ok (.enum x) | .err e n => .err e n | .panic => .panic
  | .bin64 _ => match decodeBin64 b with | .ok (x, _) => .ok (.bin64 x) | .err e n => .err e n | .panic => .panic
  | .bin128 _ => match decodeBin128 b with | .ok (x, _) => .ok (.bin128 x) | .err e n => .err e n | .panic => .panic
  | .bin256 _ => match decodeBin256 b with | .ok (x, _) => .ok (.bin256 x) | .err e n => .err e n | .panic => .panic
  | .bytes _ => match decodeBytes b with | .ok (x, _) => .ok (.bytes x) | .err e n => .err e n | .panic => .panic
  | .string _ => match decodeString b with | .ok (x, _) => .ok (.string x) | .err e n => .err e n | .panic => .panic
  | .f32 _ => match decodeFloat32 IEEE.ieee b with | .ok (x, _) => .ok (.f32 x) | .err e n => .err e n | .panic => .panic
  | .f64 _ => match decodeFloat64 IEEE.ieee b with | .ok (x, _) => .ok (.f64 x) | .err e n => .err e n | .panic => .panic

/-- encoder then decoder of the same kind, behind any prefix, for every value of the type -/
theorem sval_roundtrip (v : SVal) (hv : v.OK) (p : Bytes) : decodeLike v (p ++ v.enc) = .ok v := by
  cases v with
  | bool x => simp only [decodeLike, SVal.enc, bool_roundtrip]
  | byte x => simp only [decodeLike, SVal.enc, byte_roundtrip]
  | int w x => simp only [decodeLike, SVal.enc, int_roundtrip w p x hv]
  | uint w x => simp only [decodeLike, SVal.enc, uint_roundtrip w p x hv]
  | enum x => simp only [decodeLike, SVal.enc, int_roundtrip .w32 p x hv]
  | bin64 x => simp only [decodeLike, SVal.enc, bin64_roundtrip p x hv]
  | bin128 x => simp only [decodeLike, SVal.enc, bin128_roundtrip p x hv]
  | bin256 x => simp only [decodeLike, SVal.enc, bin256_roundtrip p x hv]
  | bytes x => simp only [decodeLike, SVal.enc, bytes_roundtrip p x hv]
  | string x => simp only [decodeLike, SVal.enc, string_roundtrip p x hv]
  | f32 x => simp only [decodeLike, SVal.enc, float32_roundtrip_ieee p x hv.1 hv.2]
  | f64 x => simp only [decodeLike, SVal.enc, float64_roundtrip IEEE.ieee p x hv]

/-- the bytes of a field value are self-delimiting (what the by-tag lookup relies on) -/
theorem sval_delim (v : SVal) (hv : v.OK) : Delim v.enc := by
  apply valid_delim
  cases v with
  | bool x => exact .bool x
  | byte x => exact .byte x
  | int w x => cases w; exact .i16 x hv; exact .i32 x hv; exact .i64 x hv
  | uint w x => cases w; exact .u16 x hv; exact .u32 x hv; exact .u64 x hv
  | enum x => exact .i32 x hv
  | bin64 x => exact .bin64 x hv
  | bin128 x => exact .bin128 x hv
  | bin256 x => exact .bin256 x hv
  | bytes x => exact .bytes x hv
  | string x => exact .str x hv
  | f32 x => exact .f32 x hv.1
  | f64 x => exact .f64 x hv

/-- the message the generated writer builds from (tag, value) pairs in call order -/
def genWrite (fs : List (Nat × SVal)) : Bytes := encMsg (fs.map fun tv => (tv.1, tv.2.enc))

/-- every field the generated writer wrote is returned by the generated reader: found under its
tag, decoded with the decoder of its declared kind, equal to the written value — for every message,
write order and prefix -/
theorem generated_roundtrip (p : Bytes) (l : List (Nat × SVal)) (tag : Nat) (v : SVal) (r : List (Nat × SVal))
    (wf : MsgWF ((l ++ (tag, v) :: r).map fun tv => (tv.1, tv.2.enc))) (hv : v.OK) :
    ∃ M, openMessageErr (p ++ genWrite (l ++ (tag, v) :: r)) = .ok M ∧
      M.hasField tag = .ok true ∧
      ∃ raw, M.field tag = .ok raw ∧ decodeLike v raw = .ok v := by
  simp only [genWrite, List.map_append, List.map_cons] at wf ⊢
  obtain ⟨M, ho, _, hh, hf⟩ := C01.msg_field_found p _ tag v.enc _ wf (sval_delim v hv)
  exact ⟨M, ho, hh, v.enc, hf, sval_roundtrip v hv []⟩

/-- a field that was not written is absent for the generated reader -/
theorem generated_absent (p : Bytes) (fs : List (Nat × SVal))
    (wf : MsgWF (fs.map fun tv => (tv.1, tv.2.enc))) (tag : Nat)
    (hn : tag ∉ fs.map (·.1)) :
    ∃ M, openMessageErr (p ++ genWrite fs) = .ok M ∧ M.hasField tag = .ok false := by
  have hn' : tag ∉ (fs.map fun tv => (tv.1, tv.2.enc)).map (·.1) := by simpa using hn
  obtain ⟨M, ho, hh, _⟩ := C01.msg_field_absent p _ wf tag hn'
  exact ⟨M, ho, hh⟩

end SpecVerif.C05
