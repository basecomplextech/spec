/-
C12 — Writer rejects misuse with sticky errors, never panics or emits garbage.

Theorems about the writer state machine (`Writer/Model.lean`, `Writer/Api.lean`), for every state:
 * the first error is sticky: every write/end operation on a failed writer returns that same error
   and leaves the writer unchanged (`sticky_*`), `fail` keeps the first error;
 * `Free` is safe in every state, also after an error and after `Free` (`free_safe`);
 * `Reset` returns the writer to the clean state (`reset_clean`);
 * a handle whose message ended reports the closed error for every operation (`closed_handle`).
 * `sticky_program` / `err_persists`: for EVERY program without Reset, once the writer has failed the
   error is still in place after any further calls (live and dead handles, Copy, Free, failing write
   functions, begins, queries): with `sticky_*` every later write and the final Build report it.
 * `no_panic`: for EVERY program over the call alphabet (values, fields, elements, nested begins, ends
   and builds through live and dead handles, Len/HasField, Err, Reset, Free, ill-typed calls; every
   order, every length) no call reaches a panic outcome of the model (nil state, slice bounds, table
   index): the stack/table well-formedness invariant of Lemmas/WriterInv.lean is kept by every
   operation. The alphabet includes `Copy`/`Merge` from ARBITRARY source bytes: the opened source's
   index accessors are total by C02.message_accessors_safe (Lemmas/WriterCopySafe.lean).
PARTIAL: `build_ok_parses` (a successful Build parses) is a theorem for the programs of value trees
(`C01.written_tree_reads_back`) and of Copy/Merge (`C16.copy_preserves`); for arbitrary misuse
programs it is decided by the differential stream and the Go-side oracle (GARBAGE flag).
-/
import SpecVerif.Writer.Api
import SpecVerif.Lemmas.WriterInv
import SpecVerif.Lemmas.WriterCopySafe
namespace SpecVerif.C12
open SpecVerif SpecVerif.Writer

theorem sticky_write (w : W) (e : WErr) (h : w.err = some e) (idx : Nat) (enc : Bytes) :
    writeValue w idx enc = (w, .err e) := by
  unfold writeValue; rw [h]

theorem sticky_element (w : W) (e : WErr) (h : w.err = some e) (idx : Nat) :
    element w idx = (w, .err e) := by
  unfold element; rw [h]

theorem sticky_field (w : W) (e : WErr) (h : w.err = some e) (idx tag : Nat) :
    field w idx tag = (w, .err e) := by
  unfold field; rw [h]

theorem sticky_end (w : W) (e : WErr) (h : w.err = some e) (idx : Nat) :
    end_ w idx = (w, .err e) := by
  unfold end_; rw [h]

theorem sticky_fieldAny (w : W) (e : WErr) (h : w.err = some e) (idx tag : Nat) (b : Bytes) :
    fieldAny w idx tag b = (w, .err e) := by
  unfold fieldAny; rw [h]

/-- container begins are no-ops on a failed writer (the handles they return stay usable and report
the stored error) -/
theorem sticky_begin (w : W) (e : WErr) (h : w.err = some e) (idx tag : Nat) :
    beginList w = w ∧ beginMessage w = w ∧ beginElement w idx = w ∧ beginField w idx tag = w := by
  unfold beginList beginMessage beginElement beginField
  rw [h]; simp

theorem sticky_queries (w : W) (e : WErr) (h : w.err = some e) (tag : Nat) :
    hasField w tag = .bool false ∧ listLen w = .nat 0 := by
  unfold hasField listLen; rw [h]; simp

theorem fail_keeps_first (w : W) (e e' : WErr) (h : w.err = some e) : fail w e' = (w, e) := by
  unfold fail; rw [h]

theorem fail_records (w : W) (e : WErr) (h : w.err = none) :
    (fail w e).1.err = some e ∧ (fail w e).1.st = none ∧ (fail w e).2 = e := by
  unfold fail; rw [h]; simp

/-- an error returned by a caller-supplied write function (WriteField / WriteElement /
ValueListWriter.Add) becomes the writer's sticky error: the call reports it, and so do every later
write and the final End/Build -/
theorem write_func_error_sticky (w : W) (s : WState) (idx idx' tag : Nat) (enc : Bytes)
    (he : w.err = none) (hs : w.st = some s) :
    (writeFail w idx).2 = .err (.at idx) ∧
    (writeValue (writeFail w idx).1 idx' enc).2 = .err (.at idx) ∧
    (field (writeFail w idx).1 idx' tag).2 = .err (.at idx) ∧
    (element (writeFail w idx).1 idx').2 = .err (.at idx) ∧
    (end_ (writeFail w idx).1 idx').2 = .err (.at idx) := by
  have h1 : writeFail w idx = ({ w with st := none, err := some (.at idx) }, .err (.at idx)) := by
    unfold writeFail failOut fail; simp [he, hs]
  rw [h1]
  refine ⟨rfl, ?_, ?_, ?_, ?_⟩
  · rw [sticky_write _ (.at idx) rfl]
  · rw [sticky_field _ (.at idx) rfl]
  · rw [sticky_element _ (.at idx) rfl]
  · rw [sticky_end _ (.at idx) rfl]

theorem free_safe (w : W) :
    (free w).2 = .ok ∧ (free w).1.st = none ∧ (free (free w).1).2 = .ok ∧ (free w).1.err ≠ none := by
  unfold free close
  cases he : w.err <;> cases hs : w.st <;> cases hr : w.release <;> simp [he, hs, hr]

theorem after_free_sticky (w : W) (idx : Nat) (enc : Bytes) :
    ∃ e, writeValue (free w).1 idx enc = ((free w).1, .err e) ∧ end_ (free w).1 idx = ((free w).1, .err e) := by
  have h := (free_safe w).2.2.2
  cases he : (free w).1.err with
  | none => exact absurd he h
  | some e => exact ⟨e, sticky_write _ e he idx enc, sticky_end _ e he idx⟩

theorem reset_clean (w : W) : (reset w).1 = fresh [] w.release ∧ (reset w).2 = .ok := by
  unfold reset fresh; simp

theorem closed_handle (idx tag : Nat) (enc : Bytes) :
    (writeValue closedW idx enc).2 = .err .closed ∧ (end_ closedW idx).2 = .err .closed ∧
    (field closedW idx tag).2 = .err .closed ∧ hasField closedW tag = .bool false ∧
    listLen closedW = .nat 0 := by
  refine ⟨by rw [sticky_write closedW .closed rfl], by rw [sticky_end closedW .closed rfl],
    by rw [sticky_field closedW .closed rfl], (sticky_queries closedW .closed rfl tag).1,
    (sticky_queries closedW .closed rfl tag).2⟩

/-- End/Build twice on the same message variable: the second call reports `closed`, no panic -/
theorem double_end (s : Sess) (h idx1 idx2 : Nat) (hd : Handle) (hh : s.handles[h]? = some hd) (hk : hd.kind = .M) :
    ∃ s2, (step (step s idx1 (.end_ h)).1 idx2 (.end_ h)) = (s2, .err .closed) := by
  -- the first `End` leaves the handle dead, so the second runs `end` on the closed writer
  have hlen : h < (onHandle s hd.dead fun w => end_ w idx1).1.handles.length := by
    rw [onHandle_handles]; exact (List.getElem?_eq_some_iff.mp hh).1
  simp only [step, hh, hk, ↓reduceIte, killHandle, List.getElem?_set_self hlen]
  simp only [onHandle, ↓reduceIte, sticky_end closedW .closed rfl]
  exact ⟨_, rfl⟩

/-! non-vacuity: a concrete misuse sequence (write after a nesting violation, then Free twice) -/
example : (run [.msg, .e 0 (encBool true), .f 0 1 (encBool true), .free, .free]).2 =
    [.ok, .badop, .ok, .ok, .ok] := by decide

theorem no_panic (cs : List Call) (buf : Bytes) : ∀ o ∈ (run cs buf).2, o ≠ .panic :=
  runFrom_no_panic_all (Sess.init buf) 0 cs (WInv_fresh buf false)

/-- the same from any state a program can reach: after any prefix, any continuation is panic-free -/
theorem no_panic_from (s : Sess) (idx : Nat) (cs : List Call) (hs : WInv s.w) :
    ∀ o ∈ (runFrom s idx cs).2, o ≠ .panic :=
  runFrom_no_panic_all s idx cs hs

/-- non-vacuity: Copy from garbage bytes (treated as an empty message) and, through an ended handle,
from a real message (reports `closed`) -/
example : (run [.msg, .copy 0 [255, 3, 1], .end_ 0, .copy 0 (encMsg [(1, encBool true)])]).2 =
    [.ok, .ok, .ok, .err .closed] := by
  decide

/-! ### the first error stays, for whole programs -/

def _root_.SpecVerif.Writer.Call.notReset : Call → Bool
  | .reset => false
  | _ => true

theorem copyLoop_err (src : MsgV) (idx : Nat) (w : W) (e : WErr) (hw : w.err = some e) :
    ∀ k i, (copyLoop src idx k i w).1.err = some e := by
  intro k
  induction k with
  | zero => intro i; exact hw
  | succ k ih =>
    intro i
    unfold copyLoop
    split
    · exact hw
    · exact hw
    · exact ih (i + 1)
    · rw [(sticky_queries w e hw _).1]
      simp only
      split
      · rw [sticky_fieldAny w e hw]; exact hw
      · exact hw

theorem op_err (idx : Nat) (c : Call) (hc : c.notReset = true) (w : W) (e : WErr) (hw : w.err = some e) :
    (c.op idx w).1.err = some e := by
  have hb := sticky_begin w e hw idx
  cases c with
  | msg => simp only [Call.op, (hb 0).2.1]; exact hw
  | list => simp only [Call.op, (hb 0).1]; exact hw
  | fmsg h tag => simp only [Call.op, (hb tag).2.2.2, (hb tag).2.1]; exact hw
  | flist h tag => simp only [Call.op, (hb tag).2.2.2, (hb tag).1]; exact hw
  | emsg h => simp only [Call.op, (hb 0).2.2.1, (hb 0).2.1]; exact hw
  | elist h => simp only [Call.op, (hb 0).2.2.1, (hb 0).1]; exact hw
  | v enc | f h tag enc | e h enc => simp only [Call.op, sticky_write w e hw]; exact hw
  | vbuild | end_ h | build h => simp only [Call.op, sticky_end w e hw]; exact hw
  | fwfail h | ewfail h => simp only [Call.op, writeFail, hw]
  | has h tag | len h | err | bad => exact hw
  | copy h src =>
    simp only [Call.op, copyMsg]
    split
    · exact copyLoop_err _ idx w e hw _ _
    · exact hw
  | reset => cases hc
  | free =>
    simp only [Call.op, free, close, hw]
    split <;> simp [hw]

theorem err_persists (s : Sess) (idx : Nat) (c : Call) (e : WErr) (h : s.w.err = some e)
    (hc : c.notReset = true) : (step s idx c).1.w.err = some e :=
  (step_inv (P := (·.err = some e)) (Q := fun _ => True) s idx c h
    (fun w hw => ⟨op_err idx c hc w e hw, trivial⟩) trivial trivial (fun _ _ => trivial)).1

theorem sticky_program (s : Sess) (idx : Nat) (cs : List Call) (e : WErr) (h : s.w.err = some e)
    (hc : ∀ c ∈ cs, c.notReset = true) : (runFrom s idx cs).1.w.err = some e := by
  induction cs generalizing s idx with
  | nil => exact h
  | cons c cs ih =>
    exact ih _ _ (err_persists s idx c e h (hc c (by simp))) (fun x hx => hc x (by simp [hx]))

end SpecVerif.C12
