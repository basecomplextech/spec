/-
C02 — Decoding arbitrary bytes never panics or reads out of bounds.
For EVERY byte string `b` (no hypothesis on `b` anywhere below) each read entry point of the model
returns normally (`ok` or `err`, never `panic`), reports a size `n ≤ |b|` (also next to an error),
and every container accessor of a value opened from `b` is panic-free.  Views are sub-lists of the
input by construction of the model (`take`/`drop` only); the harness checks pointer containment on
the implementation.
-/
import SpecVerif.Lemmas.Parse
namespace SpecVerif.C02
open SpecVerif Pinned

theorem decoders_safe (F : FloatOps) (b : Bytes) :
    SafeN b.length (decodeBool b) ∧ SafeN b.length (decodeByte b) ∧
    SafeN b.length (decodeInt16 b) ∧ SafeN b.length (decodeInt32 b) ∧ SafeN b.length (decodeInt64 b) ∧
    SafeN b.length (decodeUint16 b) ∧ SafeN b.length (decodeUint32 b) ∧ SafeN b.length (decodeUint64 b) ∧
    SafeN b.length (decodeFloat32 F b) ∧ SafeN b.length (decodeFloat64 F b) ∧
    SafeN b.length (decodeBin64 b) ∧ SafeN b.length (decodeBin128 b) ∧ SafeN b.length (decodeBin256 b) ∧
    SafeN b.length (decodeBytes b) ∧ SafeN b.length (decodeString b) ∧ SafeN b.length (decodeStruct b) ∧
    SafeN b.length (decodeListTable b) ∧ SafeN b.length (decodeMessageTable b) ∧
    SafeN b.length (decodeTypeSize b) :=
  ⟨decodeBool_safe b, decodeByte_good.safe b, decodeInt16_good.safe b, decodeInt32_good.safe b,
   decodeInt64_good.safe b, decodeUint16_good.safe b, decodeUint32_good.safe b, decodeUint64_good.safe b,
   (decodeFloat32_good F).safe b, (decodeFloat64_good F).safe b, decodeBin64_good.safe b,
   decodeBin128_good.safe b, decodeBin256_good.safe b,
   decodeBytes_good.safe b, decodeString_good.safe b, decodeStruct_good.safe b, decodeListTable_good.safe b,
   decodeMessageTable_good.safe b, decodeTypeSize_safe b⟩

/-- OpenValue: never panics; the value returned is a suffix of the input -/
theorem openValue_safe (b : Bytes) : ∃ v, openValue b = .ok v ∧ v.length ≤ b.length ∧ v <:+ b := by
  have hs := decodeTypeSize_safe b
  unfold openValue
  cases hd : decodeTypeSize b with
  | ok a =>
    obtain ⟨t, n⟩ := a
    rw [hd] at hs; simp at hs
    have : ¬ b.length < n := by omega
    simp only [this, ↓reduceIte, suffix_ok b n hs]
    exact ⟨_, rfl, by simp [Nat.min_le_right], List.drop_suffix _ _⟩
  | err e n => exact ⟨[], rfl, by simp, List.nil_suffix⟩
  | panic => rw [hd] at hs; simp at hs

/-- ParseValue / ParseList / ParseMessage: never panic, terminate (fuel `2|b|+2` suffices for every
input, whatever its nesting), report `n ≤ |b|` with a value or an error -/
theorem parseValue_safe (F : FloatOps) (b : Bytes) : SafeP b.length (parseValue F (2 * b.length + 2) b) :=
  SpecVerif.parseValue_safe F _ b (by omega)

theorem parseList_safe (F : FloatOps) (b : Bytes) : SafeP b.length (parseList F (2 * b.length + 2) b) :=
  parseList_eq F ▸ parseContainer_safe F listKind _ (SpecVerif.parseValue_safe F _) b (by omega)

theorem parseMessage_safe (F : FloatOps) (b : Bytes) : SafeP b.length (parseMessage F (2 * b.length + 2) b) :=
  parseMessage_eq F ▸
    parseContainer_safe F messageKind _ (SpecVerif.parseValue_safe F _) b (by omega)

theorem list_accessors_safe (b : Bytes) :
    (∃ e, openListErr b = .err e 0) ∨
    (∃ l, openListErr b = .ok l ∧ l.bytes.length ≤ b.length ∧
      ∀ i, i < l.len → ∃ v, l.getBytes i = .ok v ∧ v.length < l.bytes.length) := by
  rcases openListErr_spec b with ⟨l, h, wf, hl⟩ | h
  · right
    refine ⟨l, h, hl, fun i hi => ?_⟩
    obtain ⟨v, hv, hlen⟩ := getBytes_ok l wf i hi
    exact ⟨v, hv, by omega⟩
  · left; exact h

/-- Message.Field / FieldAt after the raw bytes `r` of the field: OpenValue on them unless they are empty -/
theorem opened_safe {r : Res Bytes} {L : Nat} (h : ∃ v, r = .ok v ∧ (v.length = 0 ∨ v.length + 3 ≤ L)) :
    (∃ v, r = .ok v ∧ v.length ≤ L) ∧
    ∃ o, (do let b ← r; if b.length = 0 then pure [] else openValue b) = .ok o ∧ o.length ≤ L := by
  obtain ⟨v, rfl, hl⟩ := h
  refine ⟨⟨v, rfl, by omega⟩, ?_⟩
  simp only [bind, Res.bind]
  split
  · exact ⟨[], rfl, Nat.zero_le _⟩
  · obtain ⟨o, ho, hol, -⟩ := openValue_safe v
    exact ⟨o, ho, by omega⟩

/-- Message accessors (by tag — the unsafe binary search — and by index) on a message opened from
arbitrary bytes -/
theorem message_accessors_safe (b : Bytes) :
    (∃ e, openMessageErr b = .err e 0) ∨
    (∃ m, openMessageErr b = .ok m ∧ m.bytes.length ≤ b.length ∧
      (∀ tag, (∃ v, m.fieldRaw tag = .ok v ∧ v.length ≤ m.bytes.length) ∧ (∃ r, m.hasField tag = .ok r) ∧
              (∃ v, m.field tag = .ok v ∧ v.length ≤ m.bytes.length)) ∧
      (∀ i, (∃ v, m.fieldAtRaw i = .ok v ∧ v.length ≤ m.bytes.length) ∧ (∃ r, m.tagAt i = .ok r) ∧
            (∃ v, m.fieldAt i = .ok v ∧ v.length ≤ m.bytes.length))) := by
  rcases openMessageErr_spec b with ⟨m, h, wf, hl⟩ | h
  · refine Or.inr ⟨m, h, hl, fun tag => ?_, fun i => ?_⟩
    · have ⟨h1, h2⟩ := opened_safe (fieldRaw_ok m wf tag)
      exact ⟨h1, hasField_ok m tag, h2⟩
    · have ⟨h1, h2⟩ := opened_safe (fieldAtRaw_ok m wf i)
      exact ⟨h1, tagAt_ok m i, h2⟩
  · exact Or.inl h

/-! ### the struct decoder the generator emits

`dataSize, size, err := DecodeStruct(b); b = b[len(b)-size:]; off := len(b) - (size - dataSize);`
then for each field, last to first: `v, n, err = decodeK(b[:off]); off -= n`.  `decs` are the field
decoders (any decoders that are `SafeN` on every input). -/

def genStructFields (decs : List (Bytes → Res Nat)) (b : Bytes) (off : Nat) : Res Unit :=
  match decs with
  | [] => .ok ()
  | d :: ds =>
    if off > b.length then .panic else
    match d (b.take off) with
    | .ok n => if n > off then .panic else genStructFields ds b (off - n)
    | .err e n => .err e n
    | .panic => .panic

def genStructDecode (decs : List (Bytes → Res Nat)) (b : Bytes) : Res Nat :=
  match decodeStruct b with
  | .err e n => .err e n
  | .panic => .panic
  | .ok (dataSize, size) =>
    if size = 0 then .ok 0 else
    if size > b.length then .panic else
    let b' := lastN size b
    let n := size - dataSize
    if n > b'.length then .panic else
    match genStructFields decs b' (b'.length - n) with
    | .ok () => .ok size
    | .err e k => .err e k
    | .panic => .panic

theorem genStructFields_safe (decs : List (Bytes → Res Nat))
    (hd : ∀ d ∈ decs, ∀ x : Bytes, SafeP x.length (d x)) (b : Bytes) :
    ∀ off, off ≤ b.length → genStructFields decs b off ≠ .panic := by
  induction decs with
  | nil => simp [genStructFields]
  | cons d ds ih =>
    intro off hoff
    have hs := hd d (by simp) (b.take off)
    rw [genStructFields, if_neg (by omega)]
    cases hx : d (b.take off) with
    | ok n =>
      -- the field decoder is safe on `b[:off]`, so `n ≤ off`
      rw [hx, SafeP_ok, List.length_take] at hs
      simp only []
      rw [if_neg (by omega)]
      exact ih (fun d' hd' => hd d' (by simp [hd'])) (off - n) (by omega)
    | err e n => simp
    | panic => rw [hx] at hs; exact hs.elim

theorem genStructDecode_safe (decs : List (Bytes → Res Nat))
    (hd : ∀ d ∈ decs, ∀ x : Bytes, SafeP x.length (d x)) (b : Bytes) :
    genStructDecode decs b ≠ .panic := by
  have hs := decodeStruct_good.safe b
  unfold genStructDecode
  cases hx : decodeStruct b with
  | err e n => simp
  | panic => rw [hx] at hs; exact hs.elim
  | ok a =>
    obtain ⟨ds, size⟩ := a
    -- DecodeStruct reports a size within `b`, so both cuts are in range
    rw [hx, SafeN_ok] at hs
    have hl : (lastN size b).length = size := by simp; omega
    have := genStructFields_safe decs hd (lastN size b) ((lastN size b).length - (size - ds)) (by omega)
    simp only []
    split
    · simp
    · rw [if_neg (by omega), if_neg (by omega)]
      split
      · simp
      · simp
      · exact absurd ‹_› this

/-! ### non-vacuity: the inputs that crashed the unrepaired code are handled -/
example : decodeString [0x00, 60] = .err .data 0 := by decide
example : decodeStruct [200, 90] = .err .data 0 := by decide

end SpecVerif.C02
