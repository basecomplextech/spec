/-
Ties of the wire format and protocol constants. A tie `x_tie : Generated.x = Pinned.x` compares a fact
regenerated from /repo on every run (`Generated/Facts.lean`) with the hand-written value the models are
built on; both are closed literals, the proof is `rfl`. When the code changes such a fact, `lake build`
fails at the tie of that name: the models no longer describe the code.
-/
import SpecVerif.Pinned
import SpecVerif.Generated.Facts
namespace SpecVerif.Ties

theorem typeCodes_tie : Generated.typeCodes = Pinned.typeCodes := rfl
theorem listElemSmall_tie : Generated.listElemSmall = Pinned.listElemSmall := rfl
theorem listElemBig_tie : Generated.listElemBig = Pinned.listElemBig := rfl
theorem msgFieldSmall_tie : Generated.msgFieldSmall = Pinned.msgFieldSmall := rfl
theorem msgFieldBig_tie : Generated.msgFieldBig = Pinned.msgFieldBig := rfl
theorem maxSize_tie : Generated.maxSize = Pinned.maxSize := rfl
theorem protocolLine_tie : Generated.protocolLine = Pinned.protocolLine := rfl
theorem maxReadChunk_tie : Generated.maxReadChunk = Pinned.maxReadChunk := rfl

/-- the `Pinned` type-code definitions used by the models agree with the pinned table -/
theorem pinned_codes_consistent :
    Pinned.typeCodes.map (·.2) =
      [Pinned.tUndefined, Pinned.tTrue, Pinned.tFalse, Pinned.tByte, Pinned.tInt16, Pinned.tInt32,
       Pinned.tInt64, Pinned.tUint16, Pinned.tUint32, Pinned.tUint64, Pinned.tFloat32,
       Pinned.tFloat64, Pinned.tBin64, Pinned.tBin128, Pinned.tBin256, Pinned.tBytes,
       Pinned.tString, Pinned.tList, Pinned.tBigList, Pinned.tMessage, Pinned.tBigMessage,
       Pinned.tStruct].map (·.toNat) := by decide

end SpecVerif.Ties
