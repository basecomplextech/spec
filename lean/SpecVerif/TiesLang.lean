/-
Ties (see Ties.lean) for the schema parser facts of PinnedLang.lean, then the table checks that link
the pinned values to the Lean model's keywords (C15) and to the scalar kinds (C05).
-/
import SpecVerif.PinnedLang
import SpecVerif.PinnedMpx
import SpecVerif.Generated.Facts
import SpecVerif.Lang.Syntax
namespace SpecVerif.TiesLang

theorem grammarRules_tie : Generated.grammarRules = PinnedLang.grammarRules := rfl
theorem lexKeywords_tie : Generated.lexKeywords = PinnedLang.lexKeywords := rfl
theorem grammarRegenerated_tie : Generated.grammarRegenerated = PinnedLang.grammarRegenerated := rfl
theorem grammarConflicts_tie : Generated.grammarConflicts = PinnedLang.grammarConflicts := rfl

/-- grammar.go in the repository is what goyacc generates from grammar.y, without conflicts: the
generated parser accepts exactly the language of the pinned productions -/
theorem parser_tables_current : PinnedLang.grammarRegenerated = "yes" ∧
    PinnedLang.grammarConflicts = "0 shift/reduce, 0 reduce/reduce conflicts reported" := ⟨rfl, rfl⟩

open SpecVerif.Lang in
/-- the model's keyword table is keywords.go -/
theorem keywords_model : (∀ s ∈ PinnedLang.lexKeywords, s ∈ Kw.all.map Kw.entry) ∧
    PinnedLang.lexKeywords.length = Kw.all.length := by decide +kernel

open SpecVerif.Lang in
/-- the model's contextual keywords (`Kw.isName`) are the alternatives of the `keyword` nonterminal -/
theorem name_keywords_model : ∀ k ∈ Kw.all,
    k.isName = decide (k.nameRule ∈ PinnedLang.grammarRules) := by decide +kernel

/-- `a` is immediately followed by `b` somewhere in `l` -/
def adjacent (a b : String) : List String → Bool
  | x :: y :: r => (x == a && y == b) || adjacent a b (y :: r)
  | _ => false

def scalarKinds : List String :=
  ["Bool", "Byte", "Int16", "Int32", "Int64", "Uint16", "Uint32", "Uint64", "Bin64", "Bin128", "Bin256",
   "Float32", "Float64", "Bytes", "String"]

def writeCase : String → String × String
  | "Bool" => ("case model.KindBool", "return \"spec.EncodeBool\"") | "Byte" => ("case model.KindByte", "return \"spec.EncodeByte\"")
  | "Int16" => ("case model.KindInt16", "return \"spec.EncodeInt16\"") | "Int32" => ("case model.KindInt32", "return \"spec.EncodeInt32\"")
  | "Int64" => ("case model.KindInt64", "return \"spec.EncodeInt64\"") | "Uint16" => ("case model.KindUint16", "return \"spec.EncodeUint16\"")
  | "Uint32" => ("case model.KindUint32", "return \"spec.EncodeUint32\"") | "Uint64" => ("case model.KindUint64", "return \"spec.EncodeUint64\"")
  | "Bin64" => ("case model.KindBin64", "return \"spec.EncodeBin64\"") | "Bin128" => ("case model.KindBin128", "return \"spec.EncodeBin128\"")
  | "Bin256" => ("case model.KindBin256", "return \"spec.EncodeBin256\"") | "Float32" => ("case model.KindFloat32", "return \"spec.EncodeFloat32\"")
  | "Float64" => ("case model.KindFloat64", "return \"spec.EncodeFloat64\"") | "Bytes" => ("case model.KindBytes", "return \"spec.EncodeBytes\"")
  | "String" => ("case model.KindString", "return \"spec.EncodeString\"") | _ => ("", "")

def decodeCase : String → String × String
  | "Bool" => ("case model.KindBool", "return \"spec.DecodeBool\"") | "Byte" => ("case model.KindByte", "return \"spec.DecodeByte\"")
  | "Int16" => ("case model.KindInt16", "return \"spec.DecodeInt16\"") | "Int32" => ("case model.KindInt32", "return \"spec.DecodeInt32\"")
  | "Int64" => ("case model.KindInt64", "return \"spec.DecodeInt64\"") | "Uint16" => ("case model.KindUint16", "return \"spec.DecodeUint16\"")
  | "Uint32" => ("case model.KindUint32", "return \"spec.DecodeUint32\"") | "Uint64" => ("case model.KindUint64", "return \"spec.DecodeUint64\"")
  | "Bin64" => ("case model.KindBin64", "return \"spec.DecodeBin64\"") | "Bin128" => ("case model.KindBin128", "return \"spec.DecodeBin128\"")
  | "Bin256" => ("case model.KindBin256", "return \"spec.DecodeBin256\"") | "Float32" => ("case model.KindFloat32", "return \"spec.DecodeFloat32\"")
  | "Float64" => ("case model.KindFloat64", "return \"spec.DecodeFloat64\"") | "Bytes" => ("case model.KindBytes", "return \"spec.DecodeBytes\"")
  | "String" => ("case model.KindString", "return \"spec.DecodeString\"") | _ => ("", "")

/-- the generator pairs every scalar kind with the encoder and the decoder of that kind (C05: each
generated accessor reads and writes the wire type declared in the schema) -/
theorem generator_scalar_tables :
    (scalarKinds.all fun k => adjacent (writeCase k).1 (writeCase k).2 PinnedMpx.ev_gen_typeWriteFunc) = true ∧
    (scalarKinds.all fun k => adjacent (decodeCase k).1 (decodeCase k).2 PinnedMpx.ev_gen_typeDecodeFunc) = true := by
  decide +kernel

end SpecVerif.TiesLang
